import RModel.Base.Lit
import RModel.Model.Panics
import RModel.Lemmas.Edits
import RModel.Lemmas.Matcher
import RModel.Lemmas.Panics
/-
  C16 — No input makes renamify crash.   (property theorems only)

  `C16_full` (true of the code after the ten `fix:` commits cited at their sites below): none of the modelled
  data-dependent sites panics or loops, for any byte string / offset / clock value / lower-casing / acronym trie.

  Every repaired site is modelled three times in Model/Panics.lean: `…Old` (the shape before the fix, with its
  kernel-evaluated witness — "before-fix" theorems below), the checked shape (two of them for `line_after`), and
  `…Cur`, which is whichever of these the SOURCE HAS NOW according to the translator-extracted flags
  `Gen.PanicGuards.*`.  All totality theorems are about `…Cur`.  Each is proved by the lemma about the checked shape
  (Lemmas/Panics.lean), or by `rfl` where the checked shape returns at once: `fooCur x` unfolds to `fooChecked x`
  because the flag is the literal `true` (`line_after`: the flag of either checked shape, see `lineAfter_total`).
  Reverting a fix in /repo flips the flag on the next run, the unfolding yields the old shape and the theorem named
  after the site stops compiling.

  Unchanged code: `is_boundary` (exact panic condition, safe for every non-empty match — and since 7e69b4a the
  variant map cannot contain the empty string), the tokenizer's index arithmetic, `extract_immediate_context`,
  exit status.
-/
namespace C16
open Panics Edits B

/-! ## pattern.rs::is_boundary (code unchanged; since 7e69b4a every match meets its precondition) -/

/-- exact characterisation: the function panics iff the precondition fails -/
theorem isBoundary_panic_iff (bytes : Bytes) (s e : Nat) :
    isBoundary bytes s e = none ↔ ¬ boundarySafe bytes s e :=
  Panics.isBoundary_none_iff bytes s e

/-- every non-empty match inside the buffer is safe (all byte strings, all positions) -/
theorem isBoundary_in_range (bytes : Bytes) (s e : Nat) (h1 : s < e) (h2 : e ≤ bytes.length) :
    (isBoundary bytes s e).isSome = true :=
  Option.isSome_iff_ne_none.mpr fun h =>
    (isBoundary_panic_iff bytes s e).mp h ⟨Nat.le_of_lt h1, h2, fun ⟨_, hl, _⟩ => by omega⟩

/-- `find_matches` / `find_enhanced_matches`: non-empty matches within the buffer never make `is_boundary` panic -/
theorem matcher_indices_in_range (bytes : Bytes) (ms : List (Nat × Nat))
    (hregex : ∀ m ∈ ms, m.1 < m.2 ∧ m.2 ≤ bytes.length) :
    ∀ m ∈ ms, (isBoundary bytes m.1 m.2).isSome = true :=
  fun m hm => isBoundary_in_range bytes m.1 m.2 (hregex m hm).1 (hregex m hm).2

/-- case_model.rs::generate_variant_map_internal as it is now: no key of the variant map is the empty string,
    whatever the styles render and whatever the user typed -/
theorem variantMap_has_no_empty_key (rendered : List Bytes) (search : Bytes) (exact : Bool) :
    [] ∉ variantKeysCur rendered search exact :=
  Panics.variantKeysChecked_nonempty rendered search exact

/-- … hence every match of the alternation built from the variant map is non-empty and `is_boundary` is safe on it
    (the regex contract — a match is an occurrence of one alternative — is the hypothesis `IsMatchOf`) -/
theorem matcher_no_panic (rendered : List Bytes) (search : Bytes) (exact : Bool) (bytes : Bytes) (m : Nat × Nat)
    (hm : IsMatchOf (variantKeysCur rendered search exact) bytes m) :
    (isBoundary bytes m.1 m.2).isSome = true :=
  isBoundary_in_range bytes m.1 m.2
    (Panics.match_nonempty _ bytes m (variantMap_has_no_empty_key rendered search exact) hm) hm.2.1

example : (isBoundary b!"call(hello_world);" 5 16) = some true := by decide +kernel
example : IsMatchOf (variantKeysCur [b!"foo_bar", b!"fooBar"] b!"foo_bar" true) b!"x foo_bar" (2, 9) :=
  ⟨by decide +kernel, by decide +kernel, by decide +kernel⟩

/-- before 7e69b4a: a term without ASCII letters/digits rendered as "" in every style and the key "" went in … -/
theorem before_fix_empty_variant_key : [] ∈ variantKeysOld [[], []] b!"$" true := by decide +kernel
/-- … the empty alternative matches at end of input after an alphanumeric byte, where `is_boundary` panics -/
theorem before_fix_empty_variant_panics : isBoundary b!"a" 1 1 = none := by decide +kernel

/-! ## case_model.rs::parse_to_tokens_with_acronyms — index arithmetic (code unchanged) -/

/-- Loop invariants that justify every slice/index of the tokenizer, for all byte strings and positions:
    the upper-case scan from `i` ends at some `j` with `i ≤ j ≤ len`; hence `bytes[i..k]` for `k ∈ (i+1..j)` and
    `bytes[i..j-1]` (taken only when `j > i + 1`) are in range and `j - 1` does not underflow; the digit scan
    returns `digit_start ≤ current.len()` and never reads `current[-1]`; single reads `bytes[next_pos]`, `bytes[j]`,
    `bytes[i + 1]`, `bytes[i - 1]` sit behind `< bytes.len()` / `i > 0` guards. -/
theorem tokenizer_total (bytes current : Bytes) (i : Nat) (hi : i < bytes.length) :
    let j := scanUpper bytes i
    (i ≤ j ∧ j ≤ bytes.length) ∧
    (∀ k, i + 1 ≤ k → k < j → sliceOk bytes i k) ∧
    (i + 1 < j → sliceOk bytes i (j - 1) ∧ 1 ≤ j) ∧
    (digitStart current current.length ≤ current.length ∧ sliceOk current (digitStart current current.length) current.length) ∧
    (0 < i → (idx bytes (i - 1)).isSome = true) ∧
    (∀ p, p < bytes.length → (idx bytes p).isSome = true) := by
  have hj := Panics.scanUpper_bounds bytes i (Nat.le_of_lt hi)
  have hd := Panics.digitStart_le current current.length
  exact ⟨hj, fun k h1 h2 => ⟨by omega, by omega⟩, fun h => ⟨⟨by omega, by omega⟩, by omega⟩, ⟨hd, hd, Nat.le_refl _⟩,
    fun h => (idx_some_iff _ _).mpr (by omega), fun p => (idx_some_iff _ _).mpr⟩

/-- the digit scan never takes its would-be-panic branch -/
theorem digitStart_reads_in_range (current : Bytes) (d : Nat) (hd : d ≤ current.length) (h : 0 < d) :
    (current[d - 1]?).isSome = true :=
  (idx_some_iff current (d - 1)).mpr (by omega)

example : scanUpper b!"URLParser" 0 = 4 := by decide +kernel
example : digitStart b!"arm64" 5 = 3 := by decide +kernel

/-! ## apply.rs::apply_content_edits_with_content -/

/-- `&s[a..b]` on a `str` panics exactly when: start > end, end past the string, or an end point inside a character -/
theorem sliceStr_none_iff (s : Bytes) (a b : Nat) :
    sliceStr s a b = none ↔ (b < a ∨ s.length < b ∨ isCharBoundary s a = false ∨ isCharBoundary s b = false) := by
  simp only [sliceStr, ite_eq_right_iff, reduceCtorEq, imp_false, Classical.not_and_iff_not_or_not, Nat.not_le,
    Bool.not_eq_true]

/-- The loop as the source has it now never panics: for ALL file contents and ALL edit lists (stale, overlapping,
    out of range, inside a character, start > end) every failure is the reported content mismatch. -/
theorem applyEdits_never_panics (orig : Bytes) (es : List Edit) : applyEditsCur orig es ≠ .error .panic :=
  Edits.runG_true_ne_panic orig _ _

/-- and on a consistent list it still computes the left-to-right substitution (C02's theorem, restated for `…Cur`) -/
theorem applyEdits_consistent_ok (c : Bytes) (es : List Edit) (h : Consistent c 0 es) :
    applyEditsCur c es = .ok (spec c 0 es) :=
  Edits.applyEdits_eq_spec c es h

example : Consistent b!"x foo_bar y" 0 [{ before := b!"foo_bar", after := b!"baz_qux", start := 2, stop := 9 }] := by decide +kernel

/-- the four stale-plan inputs are now reported as a mismatch -/
theorem stale_offsets_now_mismatch :
    applyEditsCur b!"x" [{ before := b!"foo_bar", after := b!"baz_qux", start := 2, stop := 9 }] = .error .mismatch ∧
    applyEditsCur b!"xé foo_bar y" [{ before := b!"foo_bar", after := b!"baz_qux", start := 2, stop := 9 }] = .error .mismatch ∧
    applyEditsCur b!"x foo_bar y" [{ before := b!"foo_bar", after := b!"baz_qux", start := 9, stop := 2 }] = .error .mismatch ∧
    applyEditsCur b!"x foo_bar" [{ before := b!"foo_bar", after := b!"b", start := 2, stop := 9 },
                                 { before := b!"foo_bar", after := b!"b", start := 2, stop := 9 }] = .error .mismatch := by decide +kernel

/-- before 29e3f64, one planned edit: the command panicked iff the recorded offsets did not address a `str` slice -/
theorem before_fix_applyEdits_panic_iff (orig : Bytes) (e : Edit) :
    applyEditsOld orig [e] = .error .panic ↔ sliceStr orig e.start e.stop = none := by
  simp only [applyEditsOld, applyEditsG, List.reverse_cons, List.reverse_nil, List.nil_append, runG]
  fun_cases stepG false orig orig e
  case case1 hn => exact iff_of_true rfl hn
  case case2 hs _ => exact iff_of_false nofun (by rw [hs]; nofun)
  case case3 hs _ hn =>
    -- `replace_range` tests the same range on the same string
    rw [replaceRange, if_pos (Edits.sliceStr_some hs).2] at hn
    cases hn
  case case4 hs _ _ _ => exact iff_of_false nofun (by rw [hs]; nofun)

/-- before-fix witnesses: offsets past the end of a truncated file, inside a multi-byte character, start > end,
    and the same edit listed twice at the end of the file (the second `replace_range` no longer fits) -/
theorem before_fix_stale_offsets_panic :
    applyEditsOld b!"x" [{ before := b!"foo_bar", after := b!"baz_qux", start := 2, stop := 9 }] = .error .panic ∧
    applyEditsOld b!"xé foo_bar y" [{ before := b!"foo_bar", after := b!"baz_qux", start := 2, stop := 9 }] = .error .panic ∧
    applyEditsOld b!"x foo_bar y" [{ before := b!"foo_bar", after := b!"baz_qux", start := 9, stop := 2 }] = .error .panic ∧
    applyEditsOld b!"x foo_bar" [{ before := b!"foo_bar", after := b!"b", start := 2, stop := 9 },
                                 { before := b!"foo_bar", after := b!"b", start := 2, stop := 9 }] = .error .panic := by decide +kernel

/-! ## the raw byte column on the lossily decoded line: scanner.rs, resolver.rs, preview/diff.rs, preview/matches.rs -/

/-- the raw-slice-compare shape (7807217): when `line.get(match_col..raw_end)` is `Some(content)` the two unchecked byte
    slices `&line[..match_col]` and `&line[raw_end..]` are in range — for every byte line, column and content -/
theorem lineAfterRaw_total (raw content repl : Bytes) (col : Nat) : (lineAfterRaw raw col content repl).isSome = true := by
  fun_cases lineAfterRaw raw col content repl
  case case2 rawEnd h hn =>
    have hr : col ≤ rawEnd ∧ rawEnd ≤ raw.length := by
      unfold byteSlice at h
      split at h
      · assumption
      · cases h
    exact (hn _ _ (if_pos ⟨Nat.zero_le _, by omega⟩) (if_pos ⟨hr.2, Nat.le_refl _⟩)).elim
  all_goals rfl

/-- the `line_string.get(match_col..)` shape (ac203f2) is total as well -/
theorem lineAfterStr_total (line content repl : Bytes) (col : Nat) :
    (lineAfterChecked line col content repl).isSome = true := by
  fun_cases lineAfterChecked line col content repl <;> rfl

/-- scanner.rs::generate_hunks `line_after` AS THE SOURCE HAS IT NOW: total for EVERY raw line and column (valid UTF-8 or
    not).  Holds for either repaired shape; the unchecked one makes the `decide` below fail. -/
theorem lineAfter_total (raw content repl : Bytes) (col : Nat) :
    (lineAfterOfRaw raw col content repl).isSome = true := by
  have hflag : Gen.PanicGuards.lineAfterRawChecked = true ∨ Gen.PanicGuards.lineAfterChecked = true := by decide
  unfold lineAfterOfRaw lineAfterCur
  rcases hflag with h | h <;> rw [h]
  · exact lineAfterRaw_total raw content repl col
  · split
    · exact lineAfterRaw_total raw content repl col
    · exact lineAfterStr_total _ content repl col

/-- ambiguity/resolver.rs `line.get(..match_pos).unwrap_or("")` -/
theorem resolverPrefix_total (line : Bytes) (pos : Nat) : (resolverPrefixCur line pos).isSome = true := rfl

/-- preview/diff.rs render_diff: the checked prefix test, then `replace_range` up to the end of the matched text
    (a `String` found in a `str` ends on a character boundary: hypothesis `hend`) -/
theorem diffStep_total (afterLine content repl : Bytes) (col : Nat)
    (hend : col + content.length ≤ afterLine.length → isCharBoundary afterLine (col + content.length) = true) :
    (diffStepCur afterLine col content repl).isSome = true :=
  Panics.diffStepChecked_isSome afterLine content repl col hend

/-- preview/matches.rs and preview/diff.rs colour renderers: `get(a..b).unwrap_or("")` everywhere -/
theorem colourSlices_total (line : Bytes) (col stop : Nat) : (matchesSlicesCur line col stop).isSome = true := rfl

example : lineAfterOfRaw b!"x foo_bar y" 2 b!"foo_bar" b!"baz_qux" = some b!"x baz_qux y" := by decide +kernel
/-- `\xff foo_bar`: the parts around the match are decoded separately (before 7807217 the line came back unchanged) -/
example : lineAfterRaw ([0xFF, 0x20] ++ b!"foo_bar") 2 b!"foo_bar" b!"baz_qux" = some (Utf8.fffd ++ b!" baz_qux") := by decide +kernel
example : lineAfterChecked (Utf8.lossy ([0xFF, 0x20] ++ b!"foo_bar")) 2 b!"foo_bar" b!"baz_qux"
    = some (Utf8.lossy ([0xFF, 0x20] ++ b!"foo_bar")) := by decide +kernel
/-- a column past the end, or a content that is not there, takes the fallback -/
example : lineAfterRaw b!"foo" 7 b!"foo" b!"x" = some b!"foo" := by decide +kernel

/-- the unchecked shape was safe only under hypotheses: valid UTF-8 line, column and match end on boundaries -/
theorem before_fix_lineAfter_safe_on_valid_utf8 (raw content repl : Bytes) (col : Nat)
    (hv : Utf8.valid raw = true) (hc : isCharBoundary raw col = true)
    (he : col + content.length ≤ raw.length → isCharBoundary raw (col + content.length) = true) :
    (lineAfterOfRawOld raw col content repl).isSome = true := by
  unfold lineAfterOfRawOld
  rw [Matcher.lossy_of_valid hv]
  exact Panics.lineAfterOld_isSome raw content repl col hc he

/-- before ac203f2: `\xff foo_bar` — the raw column 2 lies inside the U+FFFD that replaced `\xff`; the same column
    panicked in the resolver, in the diff preview and in the colour renderer -/
theorem before_fix_lossy_column_panics :
    lineAfterOfRawOld ([0xFF, 0x20] ++ b!"foo_bar") 2 b!"foo_bar" b!"baz_qux" = none ∧
    prefixOld (Utf8.lossy ([0xFF, 0x20] ++ b!"foo_bar")) 2 = none ∧
    diffStepOld (Utf8.lossy ([0xFF, 0x20] ++ b!"foo_bar foo_bar")) 2 b!"foo_bar" b!"baz_qux" = none ∧
    matchesSlicesOld (Utf8.lossy ([0xFF, 0x20] ++ b!"foo_bar")) 2 9 = none := by decide +kernel

/-! ## coercion.rs::replace_case_insensitive / apply_coercion -/

/-- As repaired: for EVERY lower-casing function (length-changing or not), text, pattern (empty or not) and
    replacement the function returns — no slice can panic and the loop terminates. -/
theorem replaceCaseInsensitive_total (lower : Bytes → Bytes) (text pattern repl : Bytes) :
    ∃ r, replaceCICur lower text pattern repl = .done r :=
  Panics.replaceCIChecked_done lower text pattern repl

/-- `container_without_prefix.get(pos..pos + old_pattern.len())?` -/
theorem patternPart_total (container : Bytes) (pos plen : Nat) : (patternPartCur container pos plen).isSome = true := rfl

example : replaceCICur B.lower b!"my_Foo_Bar_x" b!"foo_bar" b!"baz_qux" = .done b!"my_baz_qux_x" := by decide +kernel
/-- a length-changing lower-casing or an empty pattern now leaves the text unchanged -/
example : replaceCICur lowerDemo b!"İfoo_bar" b!"foo_bar" b!"baz_qux" = .done b!"İfoo_bar" := by decide +kernel
example : replaceCICur B.lower b!"cost" b!"" b!"x" = .done b!"cost" := by decide +kernel

/-- the unchecked shape was total on ASCII text with a non-empty pattern only -/
theorem before_fix_replaceCI_ascii_only (text pattern repl : Bytes)
    (ht : ∀ c ∈ text, c.toNat < 128) (hp : pattern ≠ []) :
    ∃ r, replaceCIOld B.lower text pattern repl = .done r :=
  Panics.ciLoop_done text _ pattern _ repl (List.length_map _) (List.length_map _)
    (List.length_pos_iff.mpr hp) (Utf8.isCharBoundary_of_ascii ht) (Utf8.isCharBoundary_of_ascii (Panics.lower_ascii ht))
    _ 0 [] (Nat.zero_le _) (by omega)

/-- before 0b972bc: a lower-casing that lengthens `İ` puts the offset out of range; before 7e69b4a an empty pattern
    (reached through the empty variant) never advanced -/
theorem before_fix_lowercase_offsets_panics :
    replaceCIOld lowerDemo b!"İfoo_bar" b!"foo_bar" b!"baz_qux" = .panic ∧
    replaceCIOld B.lower b!"cost" b!"" b!"x" = .diverges ∧
    patternPartOld b!"İfoo" 1 3 = none := by decide +kernel

/-! ## lock.rs::acquire -/

/-- `current_time.saturating_sub(timestamp)`: defined for every clock value and every timestamp -/
theorem lockAge_total (now ts : Nat) : (lockAgeCur now ts).isSome = true := rfl

theorem lock_never_panics (content : Bytes) (now : Nat) : lockPanics content now = false := by
  unfold lockPanics
  cases lockTimestamp content <;> rfl

/-- `saturating_sub` agrees with the checked subtraction wherever that was defined -/
theorem lockAgeSat_agrees (now ts : Nat) (h : ts ≤ now) : lockAgeOld now ts = some (lockAgeSat now ts) :=
  if_pos h

theorem before_fix_lock_age_underflow_iff (now ts : Nat) : (lockAgeOld now ts).isSome = true ↔ ts ≤ now := by
  unfold lockAgeOld
  split
  · exact iff_of_true rfl ‹_›
  · exact iff_of_false nofun ‹_›

/-- before 469c078 -/
theorem before_fix_lock_future_timestamp_panics : lockPanicsOld b!"1:99999999999" 1790000000 = true := by decide +kernel

/-! ## case_constraints.rs::has_consecutive_uppercase -/

/-- `for len in (2..=sequence_len).rev() { chars[start..start + len] }` with `sequence_len = i - start`, where the scan
    loop guarantees `start ≤ i ≤ chars.len()`: every slice is in range, for any text -/
theorem upperRun_total (n start i byteLen : Nat) (h1 : start ≤ i) (h2 : i ≤ n) : upperRunCur n start i byteLen = true :=
  Panics.upperRunChecked_ok n start i byteLen h1 h2

example : upperRunCur 5 1 4 9 = true := by decide +kernel
/-- before baef411: `É` alone — one character, two bytes -/
theorem before_fix_nonascii_uppercase_run_panics : upperRunOld 1 0 1 2 = false := by decide +kernel

/-! ## scanner.rs — `replace --no-regex` -/

/-- the literal search never loops: the empty pattern is rejected, any other pattern advances -/
theorem literalSearch_terminates (line pattern : Bytes) : literalCur line pattern ≠ .diverges :=
  Panics.literalChecked_terminates line pattern

example : literalCur b!"a foo b foo" b!"foo" = .done 2 := by decide +kernel
example : literalCur b!"hello" b!"" = .rejected := by decide +kernel
/-- before 4f20d4d -/
theorem before_fix_empty_literal_pattern_diverges : literalOld b!"hello" b!"" = .diverges := by decide +kernel

/-! ## scanner.rs::process_file_content — capture-group references of `replace` -/

/-- For every match, whichever groups took part in it and whichever the replacement mentions, the `$N` expansion
    cannot panic: unset groups are read with `captures.get(i)` and skipped. -/
theorem groupExpansion_total (groups : List (Option Bytes × Bool)) : (expandAll expandGroupCur groups).isSome = true := by
  induction groups with
  | nil => rfl
  | cons g rest ih =>
    obtain ⟨xs, h⟩ := Option.isSome_iff_exists.mp ih
    rw [expandAll, h]
    rfl

/-- the `Index` shape (`&captures[i]`): `(?:set_(\w+)|get_(\w+))` on `get_x` with `$1` in the replacement -/
theorem index_shape_panics_on_unset_group :
    expandAll expandGroupIndex [(none, true), (some b!"x", false)] = none := by decide +kernel
example : expandAll expandGroupCur [(none, true), (some b!"x", false)] = some [none, some b!"x"] := by decide +kernel

/-! ## output.rs::format_json -/

/-- the plan value is built without unwrapping: a serialisation error (non-UTF-8 path) becomes `null` -/
theorem planJson_total {α} (ser : Option α) : (planValueCur ser).isSome = true := rfl

/-- before f8617fa -/
theorem before_fix_json_nonutf8_path_panics : planValueOld (none : Option Unit) = none := by decide +kernel

/-! ## acronym.rs::find_longest_match -/

/-- For every trie (`next`, `isEnd`), every text and every start position on a character boundary: the match end is
    one past an ASCII byte, hence a character boundary, and `&text[start_pos..end]` cannot panic.
    `ContAfterNonAscii` (a continuation byte never follows an ASCII byte) holds for every `str`. -/
theorem findLongestMatch_total {σ} (next : σ → UInt8 → Option σ) (isEnd : σ → Bool) (root : σ) (text : Bytes) (start : Nat)
    (hs : isCharBoundary text start = true) (hc : ContAfterNonAscii text) :
    (findLongestCur next isEnd root text start).isSome = true :=
  Panics.findLongest_guarded_isSome next isEnd root text start hs hc

/-- a two-state trie for the custom acronym `AÃ` read the way the old code read it: byte 0x41, then byte 0xC3 -/
def demoNext : Nat → UInt8 → Option Nat
  | 0, 0x41 => some 1
  | 1, 0xC3 => some 2
  | _, _ => none
def demoEnd : Nat → Bool := fun s => s == 2

example : findLongestCur demoNext demoEnd 0 b!"AÃb" 0 = some none := by decide +kernel
/-- before ae62ac0: the walk accepted the first byte of `Ã` and the slice split the character -/
theorem before_fix_acronym_byte_as_char_panics : findLongestOld demoNext demoEnd 0 b!"AÃb" 0 = none := by decide +kernel

/-! ## scanner.rs::extract_immediate_context (code unchanged) -/

/-- the two `str` slices are in range when both ends are character boundaries inside the line — which holds for
    `match_pos = line.find(content)` and `match_pos + content.len()` -/
theorem extractContext_no_panic (line : Bytes) (s e : Nat) (hs : s ≤ line.length) (he : e ≤ line.length)
    (bs : isCharBoundary line s = true) (be : isCharBoundary line e = true) :
    (extractContextSlices line s e).isSome = true := by
  unfold extractContextSlices
  rw [Edits.sliceStr_of ⟨Nat.zero_le _, hs, rfl, bs⟩, Edits.sliceStr_of ⟨Nat.zero_le _, he, rfl, be⟩]
  rfl

example : (extractContextSlices b!"é foo" 3 6).isSome = true := by decide +kernel

/-! ## main.rs — exit status -/

/-- every way the process ends without panicking yields a documented status: 0, 1, 2, 3 or 130
    (table regenerated from main.rs on every run) -/
theorem exit_status_in_documented_set (o : Outcome) : exitStatus o ∈ documented := by
  cases o with
  | ok => decide
  | err m =>
    show statusOfError m ∈ documented
    unfold statusOfError
    split
    · rename_i r h
      exact (by decide : ∀ r ∈ Gen.ExitCodes.rules, r.2 ∈ documented) r (List.mem_of_find?_eq_some h)
    · decide
  | literalExit i =>
    exact (by decide : ∀ i : Fin Gen.ExitCodes.literalExits.length, (Gen.ExitCodes.literalExits.get i).2.2 ∈ documented) i

example : statusOfError b!"Content mismatch in a.txt" = 3 := by decide +kernel
example : statusOfError b!"History entry 'x' not found" = 2 := by decide +kernel
example : statusOfError b!"invalid pattern: the search pattern is empty" = 2 := by decide +kernel

/-- a panic is not among them -/
theorem panic_status_not_documented : 101 ∉ documented := by decide +kernel

/-! ## the full statement -/

/-- None of the modelled sites panics or loops, whatever the input.  (The matcher clause takes the regex contract
    `IsMatchOf`, the `has_consecutive_uppercase` clause the scan loop's `start ≤ i ≤ chars.len()`; nothing else is
    assumed.  `diffStep_total` and `findLongestMatch_total` need `str` facts as hypotheses and are not among the clauses.) -/
def C16_full : Prop :=
  (∀ rendered search exact bytes m, IsMatchOf (variantKeysCur rendered search exact) bytes m →
      (isBoundary bytes m.1 m.2).isSome = true) ∧
  (∀ raw col content repl, (lineAfterOfRaw raw col content repl).isSome = true) ∧
  (∀ line pos, (resolverPrefixCur line pos).isSome = true) ∧
  (∀ line col stop, (matchesSlicesCur line col stop).isSome = true) ∧
  (∀ lower text pattern repl, ∃ r, replaceCICur lower text pattern repl = .done r) ∧
  (∀ container pos plen, (patternPartCur container pos plen).isSome = true) ∧
  (∀ orig es, applyEditsCur orig es ≠ .error .panic) ∧
  (∀ now ts, (lockAgeCur now ts).isSome = true) ∧
  (∀ n start i byteLen, start ≤ i → i ≤ n → upperRunCur n start i byteLen = true) ∧
  (∀ line pattern, literalCur line pattern ≠ .diverges) ∧
  (∀ ser : Option Unit, (planValueCur ser).isSome = true) ∧
  (∀ groups, (expandAll expandGroupCur groups).isSome = true) ∧
  (∀ o, exitStatus o ∈ documented)

theorem C16_full_holds : C16_full :=
  ⟨matcher_no_panic,
   fun raw col content repl => lineAfter_total raw content repl col,
   resolverPrefix_total, colourSlices_total, replaceCaseInsensitive_total, patternPart_total,
   applyEdits_never_panics, lockAge_total, upperRun_total, literalSearch_terminates,
   fun ser => planJson_total ser, groupExpansion_total, exit_status_in_documented_set⟩

/-- five of the clauses about the shapes the code had before the fixes (the first with empty matches admitted, as
    the variant map of `variantKeysOld` could produce them) -/
def C16_full_before_fixes : Prop :=
  (∀ bytes s e, s ≤ e → e ≤ bytes.length → (isBoundary bytes s e).isSome = true) ∧
  (∀ raw col content repl, (lineAfterOfRawOld raw col content repl).isSome = true) ∧
  (∀ lower text pattern repl, ∃ r, replaceCIOld lower text pattern repl = .done r) ∧
  (∀ orig es, applyEditsOld orig es ≠ .error .panic) ∧
  (∀ now ts, (lockAgeOld now ts).isSome = true)

theorem C16_full_failed_before_fixes : ¬ C16_full_before_fixes := by
  intro ⟨h1, _, _, _, _⟩
  have := h1 b!"a" 1 1 (by decide) (by decide)
  rw [before_fix_empty_variant_panics] at this
  cases this

end C16
