import RModel.Base.Lit
import RModel.Model.Fs
import RModel.Model.Apply
import RModel.Lemmas.RenamePhase
import RModel.Lemmas.ContentPhase
import RModel.Lemmas.Edits
/-
  C02ren — nested renames compose   (C02 clause "moving each planned path to its new location …
  files inside renamed directories that are themselves renamed, several nesting levels", and
  C08 "nested renames compose").   The lemmas about `finalPath`, re-basing, the rename loop and `applyPlan` as a whole
  are in `Lemmas/RenamePhase.lean` and `Lemmas/ContentPhase.lean`.

  Reference semantics: `finalPath rs q` replaces, in the original path `q`, every component whose
  original prefix is the source of a planned rename by the planned new last component; `moveAll`
  applies it to every key of the tree and touches nothing else.

  The guards are decidable.  `DestFree` (tree level) and `Fresh`/`NoChain`/`DistinctDests` (path level)
  are shown necessary by kernel-evaluated witnesses; two of them (`witness_chain_overwrites`,
  `witness_chain_rebased_destination`) were replayed on the real binary (2026-09-29) with exactly the
  outcome the model predicts, on the binary built before the fix "refuse to apply when a rename
  destination already exists"; after it `apply_plan` refuses such plans up front (`preflightOk`), and
  `destFree_iff_preflight` shows that the pre-flight check is exactly the tree half of `DestFree`;
  the other half (`SiblingDestsDistinct`) is the planner's several-to-one conflict filter.
  Identity renames (`a → a`) are allowed by the guards and handled.  The key-distinctness part of
  `TreeWF` is used for the content phase only (`apply_exact`); the rename phase does not need it.
-/
namespace C02ren
open Fs Apply

/-- new last component planned for the node originally at `p`, if any -/
def newName (rs : List Ren) (p : Path) : Option Bytes :=
  (rs.find? (fun r => r.path == p)).bind (fun r => r.newPath.getLast?)

/-- `go pre rest`: rewrite the components `rest` found below the original prefix `pre` -/
def finalPath.go (rs : List Ren) : Path → Path → Path
  | _, [] => []
  | pre, c :: rest => (newName rs (pre ++ [c])).getD c :: finalPath.go rs (pre ++ [c]) rest

/-- final location of the node originally at `q` -/
def finalPath (rs : List Ren) (q : Path) : Path := finalPath.go rs [] q

def moveAll (rs : List Ren) (t : Tree) : Tree := t.map (fun e => (finalPath rs e.1, e.2))

/-- what the sequence of `subst`s executed by `renamePhase` does to an original path `q`
    (`performed` threaded exactly as `renamePhase` does, errors ignored) -/
def execPath.go : List (Path × Path) → List Ren → Path → Path
  | _, [], q => q
  | perf, r :: rs, q =>
    let af := rebase perf r.path
    let at' := rebase perf r.newPath
    execPath.go (perf ++ [(r.path, at')]) rs (subst af at' q)

def execPath (rs : List Ren) (q : Path) : Path := execPath.go [] rs q

/-- `r.newPath = r.path.dropLast ++ [c]`, `c ≠ []` (see `lastOnly_iff`) -/
def LastOnly (rs : List Ren) : Prop :=
  ∀ r ∈ rs, r.path ≠ [] ∧ r.newPath ≠ [] ∧ r.newPath.dropLast = r.path.dropLast ∧
    r.newPath.getLast? ≠ some []

def DistinctSources (rs : List Ren) : Prop := rs.Pairwise (fun a b => a.path ≠ b.path)

def isDirNode : Option Node → Bool
  | some (.dir _) => true
  | _ => false

def TreeWF (t : Tree) : Prop :=
  t.Pairwise (fun a b => a.1 ≠ b.1) ∧ (∀ e ∈ t, e.1 ≠ []) ∧
  (∀ e ∈ t, e.1.dropLast ≠ [] → isDirNode (lookup t e.1.dropLast) = true)

def KindsOk (t : Tree) (rs : List Ren) : Prop :=
  ∀ r ∈ rs, (lookup t r.path).isSome = true ∧ (r.kind = .dir ↔ isDirNode (lookup t r.path) = true)

def DestFree (t : Tree) (rs : List Ren) : Prop :=
  ∀ r ∈ rs,
    (∀ e ∈ t, e.1 ≠ r.path → e.1.dropLast = r.path.dropLast → e.1.getLast? ≠ r.newPath.getLast?) ∧
    (∀ r' ∈ rs, r'.path ≠ r.path → r'.path.dropLast = r.path.dropLast →
      r'.newPath.getLast? ≠ r.newPath.getLast?)

-- path-level guards (no tree): what `DestFree`/`KindsOk`/`TreeWF` provide, stated on paths only

def FileLeaf (rs : List Ren) : Prop :=
  ∀ f ∈ rs, f.kind = .file → ∀ r ∈ rs, pre f.path r.path = true → f.path = r.path

def DistinctDests (rs : List Ren) : Prop :=
  ∀ r ∈ rs, ∀ r' ∈ rs, r.newPath = r'.newPath → r.path = r'.path

/-- an identity rename `a → a` is harmless -/
def Fresh (rs : List Ren) (q : Path) : Prop :=
  ∀ r ∈ rs, pre r.newPath q = true → r.newPath = r.path

def NoChain (rs : List Ren) : Prop := ∀ x ∈ rs, Fresh rs x.path

instance (rs : List Ren) : Decidable (LastOnly rs) := by unfold LastOnly; infer_instance
instance (rs : List Ren) : Decidable (DistinctSources rs) := by unfold DistinctSources; infer_instance
instance (t : Tree) : Decidable (TreeWF t) := by unfold TreeWF; infer_instance
instance (t : Tree) (rs : List Ren) : Decidable (KindsOk t rs) := by unfold KindsOk; infer_instance
instance (t : Tree) (rs : List Ren) : Decidable (DestFree t rs) := by unfold DestFree; infer_instance
instance (rs : List Ren) : Decidable (FileLeaf rs) := by unfold FileLeaf; infer_instance
instance (rs : List Ren) : Decidable (DistinctDests rs) := by unfold DistinctDests; infer_instance
instance (rs : List Ren) (q : Path) : Decidable (Fresh rs q) := by unfold Fresh; infer_instance
instance (rs : List Ren) : Decidable (NoChain rs) := by unfold NoChain; infer_instance

theorem lastOnly_iff (rs : List Ren) :
    LastOnly rs ↔ ∀ r ∈ rs, r.path ≠ [] ∧ ∃ c, c ≠ [] ∧ r.newPath = r.path.dropLast ++ [c] := by
  constructor
  · intro h r hr
    obtain ⟨h1, h2, h3, h4⟩ := h r hr
    refine ⟨h1, r.newPath.getLast h2, ?_, ?_⟩
    · intro h0; apply h4; rw [List.getLast?_eq_some_getLast h2, h0]
    · rw [← h3]; exact (List.dropLast_concat_getLast h2).symm
  · intro h r hr
    obtain ⟨h1, c, hc, hn⟩ := h r hr
    refine ⟨h1, by rw [hn]; simp, by rw [hn]; simp, ?_⟩
    rw [hn, List.getLast?_concat]
    intro h0; exact hc (Option.some.inj h0)

/-! ### Bridges to the lemma file (same definitions, other namespace) -/

theorem newName_eq (rs : List Ren) (p : Path) : newName rs p = RenamePhase.newName rs p := rfl

theorem go_eq (rs : List Ren) (p q : Path) : finalPath.go rs p q = RenamePhase.go rs p q := by
  induction q generalizing p with
  | nil => rfl
  | cons c q ih => simp only [finalPath.go, RenamePhase.go, ih, newName_eq]

theorem finalPath_eq (rs : List Ren) (q : Path) : finalPath rs q = RenamePhase.finalPath rs q :=
  go_eq rs [] q

theorem moveAll_eq (rs : List Ren) (t : Tree) : moveAll rs t = RenamePhase.moveAll rs t := by
  simp only [moveAll, RenamePhase.moveAll, finalPath_eq]

theorem LastOnly.toLemma {rs : List Ren} (h : LastOnly rs) : RenamePhase.LastOnly rs :=
  fun r hr => ⟨(h r hr).1, (h r hr).2.1, (h r hr).2.2.1⟩

/-- `isDirNode` and `RenamePhase.isDirNode` unfold to the same term, so the tree guards are the lemma file's as they stand -/
theorem TreeWF.toLemma {t : Tree} (h : TreeWF t) : RenamePhase.GTreeWF t := h

theorem KindsOk.toLemma {t : Tree} {rs : List Ren} (h : KindsOk t rs) : RenamePhase.GKindsOk t rs := h

theorem execGo_eq_finalPath {q : Path} : ∀ (todo done : List Ren), RenamePhase.PlanOk (done ++ todo) →
    Fresh (done ++ todo) q →
    execPath.go (RenamePhase.perfOf done) todo (RenamePhase.finalPath done q) = RenamePhase.finalPath (done ++ todo) q := by
  intro todo
  induction todo with
  | nil => intro done _ _; rw [List.append_nil]; rfl
  | cons r todo ih =>
    intro done h fq
    rw [List.append_cons] at h fq ⊢
    simp only [execPath.go]
    rw [RenamePhase.rebase_perfOf h.left.left.ord, RenamePhase.rebase_perfOf h.left.left.ord,
      RenamePhase.step h.left (RenamePhase.Fresh.left fq), RenamePhase.perfOf_next h.left]
    exact ih (done ++ [r]) h fq

/-- The same for any processing order in which no source comes after a source it is a prefix of
    (so the theorem does not depend on stability or on how ties are broken). -/
theorem exec_eq_finalPath_anyOrder (L : List Ren)
    (hord : L.Pairwise (fun x y => pre y.path x.path = false)) (h1 : LastOnly L)
    (h4 : DistinctDests L) (h5 : NoChain L) (q : Path) (h6 : Fresh L q) :
    execPath L q = finalPath L q := by
  have := execGo_eq_finalPath L [] ⟨hord, h1.toLemma, h4, h5⟩ h6
  rwa [RenamePhase.finalPath_nil_left, ← finalPath_eq] at this

/-- PATH ALGEBRA.  For every original path `q`, whatever its depth and however many renames:
    running the substitutions of STEP 3 in the STEP 3 order, each re-based on the renames performed
    so far, moves `q` to `finalPath rs q`. -/
theorem exec_eq_finalPath (rs : List Ren) (h1 : LastOnly rs) (h2 : DistinctSources rs)
    (h3 : FileLeaf rs) (h4 : DistinctDests rs) (h5 : NoChain rs) (q : Path) (h6 : Fresh rs q) :
    execPath (sortRens rs) q = finalPath rs q := by
  have hm : ∀ r ∈ sortRens rs, r ∈ rs := fun _ h => RenamePhase.mem_sortRens.1 h
  rw [finalPath_eq, ← RenamePhase.finalPath_sortRens rs h2 q, ← finalPath_eq]
  exact exec_eq_finalPath_anyOrder _ (RenamePhase.sortRens_ord rs h2 h3) (fun r hr => h1 r (hm r hr))
    (RenamePhase.DistinctDests.mono h4 hm) (fun r hr => RenamePhase.Fresh.mono (h5 r (hm r hr)) hm)
    q (RenamePhase.Fresh.mono h6 hm)

/-- `Fresh rs q` cannot be dropped: `x/a → x/b`, `x/a/f → x/a/g`, and the unrelated path `x/b/f`
    (not below any source) is moved, because the re-based source of the second rename is `x/b/f`. -/
theorem exec_needs_fresh_witness :
    let rs : List Ren :=
      [⟨[b!"x", b!"a"], [b!"x", b!"b"], .dir⟩, ⟨[b!"x", b!"a", b!"f"], [b!"x", b!"a", b!"g"], .file⟩]
    LastOnly rs ∧ DistinctSources rs ∧ FileLeaf rs ∧ DistinctDests rs ∧ NoChain rs ∧
    finalPath rs [b!"x", b!"b", b!"f"] = [b!"x", b!"b", b!"f"] ∧
    execPath (sortRens rs) [b!"x", b!"b", b!"f"] = [b!"x", b!"b", b!"g"] := by decide +kernel

/-- `NoChain` cannot be dropped: `a → b`, `b → c` (same depth, plan order kept): the node
    originally at `a/f` ends below `c`, not below `b`. -/
theorem exec_needs_noChain_witness :
    let rs : List Ren := [⟨[b!"a"], [b!"b"], .dir⟩, ⟨[b!"b"], [b!"c"], .dir⟩]
    LastOnly rs ∧ DistinctSources rs ∧ FileLeaf rs ∧ DistinctDests rs ∧ Fresh rs [b!"a", b!"f"] ∧
    finalPath rs [b!"a", b!"f"] = [b!"b", b!"f"] ∧
    execPath (sortRens rs) [b!"a", b!"f"] = [b!"c", b!"f"] := by decide +kernel

/-- `DistinctDests` cannot be dropped: `a → c`, `b → c`, `a/f → a/g`: the node originally at `b/f`
    is renamed by the rename planned for `a/f`. -/
theorem exec_needs_distinctDests_witness :
    let rs : List Ren := [⟨[b!"a"], [b!"c"], .dir⟩, ⟨[b!"b"], [b!"c"], .dir⟩,
      ⟨[b!"a", b!"f"], [b!"a", b!"g"], .file⟩]
    LastOnly rs ∧ DistinctSources rs ∧ FileLeaf rs ∧ NoChain rs ∧ Fresh rs [b!"b", b!"f"] ∧
    finalPath rs [b!"b", b!"f"] = [b!"c", b!"f"] ∧
    execPath (sortRens rs) [b!"b", b!"f"] = [b!"c", b!"g"] := by decide +kernel

/-- `sortRens` only reorders the plan -/
theorem sortRens_perm (rs : List Ren) : List.Perm (sortRens rs) rs := RenamePhase.sortRens_perm rs

/-- directories precede files; directories in non-decreasing, files in non-increasing depth -/
theorem sortRens_shape (rs : List Ren) :
    ∃ ds fs, sortRens rs = ds ++ fs ∧
      (∀ r ∈ ds, r.kind = .dir) ∧ (∀ r ∈ fs, r.kind = .file) ∧
      ds.Pairwise (fun a b => depth a.path ≤ depth b.path) ∧
      fs.Pairwise (fun a b => depth b.path ≤ depth a.path) :=
  ⟨RenamePhase.dirPart rs, RenamePhase.filePart rs, RenamePhase.sortRens_eq rs,
    fun _ h => (RenamePhase.mem_dirPart.1 h).2, fun _ h => (RenamePhase.mem_filePart.1 h).2,
    RenamePhase.dirPart_sorted rs, RenamePhase.filePart_sorted rs⟩

/-- what the proofs use: in the STEP 3 order no source comes after a source it is a prefix of -/
theorem sortRens_prefix_order (rs : List Ren) (h2 : DistinctSources rs) (h3 : FileLeaf rs) :
    (sortRens rs).Pairwise (fun x y => pre y.path x.path = false) :=
  RenamePhase.sortRens_ord rs h2 h3

/-- TREE LEVEL.  Under the five guards STEP 3 succeeds and the tree is literally `moveAll rs t`
    (same list order, same nodes); the recorded `renames_performed` are (source, final path). -/
theorem renamePhase_ok (t : Tree) (rs : List Ren) (h1 : LastOnly rs) (h2 : DistinctSources rs)
    (h3 : TreeWF t) (h4 : KindsOk t rs) (h5 : DestFree t rs) :
    (renamePhase t [] (sortRens rs)).outcome = .ok ∧
    (renamePhase t [] (sortRens rs)).tree = moveAll rs t ∧
    (renamePhase t [] (sortRens rs)).performed =
      (sortRens rs).map (fun r => (r.path, finalPath rs r.path)) := by
  rw [RenamePhase.renamePhase_sortRens t rs h1.toLemma h2 h3.toLemma h4.toLemma h5, moveAll_eq]
  refine ⟨rfl, rfl, ?_⟩
  simp only [finalPath_eq]

/-- `NoChain` need not be assumed at tree level: the tree guards imply it (a chained destination
    would be an existing sibling) -/
theorem noChain_of_guards (t : Tree) (rs : List Ren) (h1 : LastOnly rs) (h3 : TreeWF t)
    (h4 : KindsOk t rs) (h5 : DestFree t rs) : NoChain rs :=
  (RenamePhase.treeOk_of_guards h3.toLemma h1.toLemma h4.toLemma h5).freshSrc

/-- the second half of `DestFree`: renamed siblings get different new names.  This is what the
    planner's several-to-one conflict filter provides. -/
def SiblingDestsDistinct (rs : List Ren) : Prop :=
  ∀ r ∈ rs, ∀ r' ∈ rs, r'.path ≠ r.path → r'.path.dropLast = r.path.dropLast →
    r'.newPath.getLast? ≠ r.newPath.getLast?

instance (rs : List Ren) : Decidable (SiblingDestsDistinct rs) := by
  unfold SiblingDestsDistinct; infer_instance

/-- `DestFree` = the pre-flight check of `apply_plan` (no planned destination exists on disk)
    + distinct destinations among renamed siblings -/
theorem destFree_iff_preflight (t : Tree) (rs : List Ren) (h1 : LastOnly rs) (h3 : TreeWF t) :
    DestFree t rs ↔ (preflightOk t rs = true ∧ SiblingDestsDistinct rs) := by
  constructor
  · intro h5
    exact ⟨RenamePhase.preflightOk_of_none _ _ (RenamePhase.preflight_of_guards h1.toLemma h3 h5),
      fun r hr => (h5 r hr).2⟩
  · intro ⟨h, h'⟩
    exact RenamePhase.destFree_of_preflight h1.toLemma h h'

/-- The whole of `applyPlan`.  The pre-flight check passes, the content phase changes no key and no
    node kind, so the guards survive it: when STEP 2 succeeds, the tree it leaves is moved by
    `moveAll`, and the only thing that can still go wrong is STEP 4 (reading the edited files back
    for the undo patches). -/
theorem applyPlan_moves (t : Tree) (p : Plan) (h1 : LastOnly p.rens) (h2 : DistinctSources p.rens)
    (h3 : TreeWF t) (h4 : KindsOk t p.rens) (h5 : DestFree t p.rens)
    (hc : (contentPhase p.hunks t (sortedFiles p.hunks)).1 = .ok) :
    ((applyPlan t p).outcome = .ok ∧
      (applyPlan t p).tree = moveAll p.rens (contentPhase p.hunks t (sortedFiles p.hunks)).2) ∨
    (applyPlan t p).outcome = .backupFailed ∨ (∃ e, (applyPlan t p).outcome = .rollbackFailed e) := by
  rw [moveAll_eq]
  exact RenamePhase.applyPlan_moves t p h1.toLemma h2 h3.toLemma h4.toLemma h5 hc

/-- When every edited file can be read back where STEP 4 looks for it (it is valid UTF-8 at its recorded
    location), `applyPlan` succeeds and the tree is exactly `moveAll` of what the content phase left.
    (A STEP 4 failure rolls the renames back, repo commit 6667a82; what the tree is then is C04's subject.) -/
theorem applyPlan_moves_ok (t : Tree) (p : Plan) (h1 : LastOnly p.rens) (h2 : DistinctSources p.rens)
    (h3 : TreeWF t) (h4 : KindsOk t p.rens) (h5 : DestFree t p.rens)
    (hc : (contentPhase p.hunks t (sortedFiles p.hunks)).1 = .ok)
    (hread : (sortedFiles p.hunks).all (fun f =>
        readable (renamePhase (contentPhase p.hunks t (sortedFiles p.hunks)).2 [] (sortRens p.rens)).tree
          (currentPath (renamePhase (contentPhase p.hunks t (sortedFiles p.hunks)).2 [] (sortRens p.rens)).performed f))
        = true) :
    (applyPlan t p).outcome = .ok ∧
      (applyPlan t p).tree = moveAll p.rens (contentPhase p.hunks t (sortedFiles p.hunks)).2 := by
  rw [moveAll_eq]
  exact RenamePhase.applyPlan_moves_ok t p h1.toLemma h2 h3.toLemma h4.toLemma h5 hc hread

/-- … and when a planned destination exists, nothing is touched at all.  Together with
    `applyPlan_moves` and `destFree_iff_preflight`: under `LastOnly`, `DistinctSources`, `TreeWF`,
    `KindsOk` and `SiblingDestsDistinct`, `applyPlan` either refuses up front or (content phase
    permitting) moves every node to `finalPath`. -/
theorem applyPlan_refused (t : Tree) (p : Plan) (h : preflightOk t p.rens = false) :
    ((applyPlan t p).outcome = .destExists ∨ (applyPlan t p).outcome = .sharedDest) ∧ (applyPlan t p).tree = t :=
  RenamePhase.applyPlan_refused t p h

/-- the generated flag: the pre-flight loop has the shared-destination test (repo commit 01297aa) -/
theorem sharedDestRefused_now : ExecFlags.sharedDestRefused = true := by decide +kernel

/-- With that test the pre-flight loop of `apply_plan` (skip test, shared-destination test, exists test, in plan
    order) is EXACTLY `DestFree`: both halves, not only the tree half as in `destFree_iff_preflight`. -/
theorem destFree_iff_preflight_loop (t : Tree) (rs : List Ren) (h1 : LastOnly rs) (h3 : TreeWF t)
    (h4 : KindsOk t rs) : DestFree t rs ↔ preflight t [] rs = none :=
  RenamePhase.destFree_iff_preflight_loop sharedDestRefused_now h1.toLemma h3.toLemma h4.toLemma

/-- Hence a DICHOTOMY with no hypothesis about destinations at all: for every tree and every plan whose renames
    change only the last component of distinct existing sources, `applyPlan` either refuses up front with the
    tree untouched, or (content phase and read-back permitting) moves every node to `finalPath` — there is no
    third case in which a rename is half-done or a node is overwritten. -/
theorem applyPlan_refuses_or_moves (t : Tree) (p : Plan) (h1 : LastOnly p.rens) (h2 : DistinctSources p.rens)
    (h3 : TreeWF t) (h4 : KindsOk t p.rens)
    (hc : (contentPhase p.hunks t (sortedFiles p.hunks)).1 = .ok) :
    (((applyPlan t p).outcome = .destExists ∨ (applyPlan t p).outcome = .sharedDest) ∧ (applyPlan t p).tree = t) ∨
    ((applyPlan t p).outcome = .ok ∧
      (applyPlan t p).tree = moveAll p.rens (contentPhase p.hunks t (sortedFiles p.hunks)).2) ∨
    (applyPlan t p).outcome = .backupFailed ∨ (∃ e, (applyPlan t p).outcome = .rollbackFailed e) := by
  cases hp : preflight t [] p.rens with
  | some o =>
    refine Or.inl ?_
    exact RenamePhase.applyPlan_refusal (hp ▸ Option.some_ne_none o)
  | none =>
    exact Or.inr (applyPlan_moves t p h1 h2 h3 h4 ((destFree_iff_preflight_loop t p.rens h1 h3 h4).2 hp) hc)

/-- the case 01297aa was made for: `foo1.txt` and `foo2.txt` both planned onto `bar.txt` (what
    `replace 'foo\d' bar` plans).  Before it the second rename replaced the first file; now the plan is refused and
    the tree is untouched.  The rename phase on its own still loses a node. -/
theorem witness_shared_destination :
    let t : Tree := [([b!"foo1.txt"], .file b!"A" 420), ([b!"foo2.txt"], .file b!"B" 420)]
    let rs : List Ren := [⟨[b!"foo1.txt"], [b!"bar.txt"], .file⟩, ⟨[b!"foo2.txt"], [b!"bar.txt"], .file⟩]
    LastOnly rs ∧ DistinctSources rs ∧ TreeWF t ∧ KindsOk t rs ∧ preflightOk t rs = true ∧ ¬ DestFree t rs ∧
    (renamePhase t [] (sortRens rs)).outcome = .ok ∧
    (renamePhase t [] (sortRens rs)).tree = [([b!"bar.txt"], .file b!"B" 420)] ∧
    (applyPlan t ⟨[], rs⟩).outcome = .sharedDest ∧ (applyPlan t ⟨[], rs⟩).tree = t := by decide +kernel

/-- STEP 4 (`generate_reverse_patches`) looks for every path at its final location -/
theorem currentPath_after (t : Tree) (rs : List Ren) (h1 : LastOnly rs) (h2 : DistinctSources rs)
    (h3 : TreeWF t) (h4 : KindsOk t rs) (h5 : DestFree t rs) (f : Path) :
    currentPath (renamePhase t [] (sortRens rs)).performed f = finalPath rs f := by
  rw [(renamePhase_ok t rs h1 h2 h3 h4 h5).2.2]
  simp only [finalPath_eq]
  exact RenamePhase.currentPath_sortRens rs h2
    (RenamePhase.fileLeaf_of_guards h3.toLemma h1.toLemma h4.toLemma) f

/-- a path with no renamed prefix keeps its place -/
theorem nothing_else_moves (rs : List Ren) (q : Path) (h : ∀ r ∈ rs, pre r.path q = false) :
    finalPath rs q = q := by
  rw [finalPath_eq]; exact RenamePhase.finalPath_eq_self rs q h

/-- the rename phase changes no content, mode or link target, and neither drops nor adds a node -/
theorem nodes_preserved (rs : List Ren) (t : Tree) : (moveAll rs t).map (·.2) = t.map (·.2) := by
  rw [moveAll_eq]; exact RenamePhase.moveAll_nodes rs t

/-- depth is preserved -/
theorem finalPath_length (rs : List Ren) (q : Path) : (finalPath rs q).length = q.length := by
  rw [finalPath_eq]; exact RenamePhase.finalPath_length rs q

/-- a planned source ends at: final path of its parent, then its planned new name -/
theorem finalPath_source (rs : List Ren) (h1 : LastOnly rs) (h2 : DistinctSources rs) (r : Ren)
    (hr : r ∈ rs) :
    ∃ c, r.newPath = r.path.dropLast ++ [c] ∧
      finalPath rs r.path = finalPath rs r.path.dropLast ++ [c] := by
  simp only [finalPath_eq]; exact RenamePhase.finalPath_source h1.toLemma h2 hr

/-- after the phase every original node is found at its final path (no two keys collide) -/
theorem lookup_after (t : Tree) (rs : List Ren) (h1 : LastOnly rs) (h3 : TreeWF t)
    (h5 : DestFree t rs) (e : Path × Node) (he : e ∈ t) :
    lookup (moveAll rs t) (finalPath rs e.1) = lookup t e.1 := by
  rw [moveAll_eq, finalPath_eq]; exact RenamePhase.lookup_moveAll h1.toLemma h3.toLemma h5 he

/-- `foo_bar/foo_bar/foo_bar.txt` with all three levels renamed, an un-renamed sibling file, a renamed
    symlink and an unrelated file -/
def exTree : Tree :=
  [([b!"foo_bar"], .dir 493),
   ([b!"foo_bar", b!"foo_bar"], .dir 493),
   ([b!"foo_bar", b!"foo_bar", b!"foo_bar.txt"], .file b!"hello foo_bar" 420),
   ([b!"foo_bar", b!"foo_bar", b!"other.txt"], .file b!"x" 420),
   ([b!"foo_bar", b!"foo_bar_link"], .link b!"foo_bar/foo_bar.txt"),
   ([b!"README"], .file b!"r" 420)]

/-- the plan in the planner's own order (directories deepest first, then files by path) -/
def exRens : List Ren :=
  [⟨[b!"foo_bar", b!"foo_bar"], [b!"foo_bar", b!"baz_qux"], .dir⟩,
   ⟨[b!"foo_bar"], [b!"baz_qux"], .dir⟩,
   ⟨[b!"foo_bar", b!"foo_bar", b!"foo_bar.txt"], [b!"foo_bar", b!"foo_bar", b!"baz_qux.txt"], .file⟩,
   ⟨[b!"foo_bar", b!"foo_bar_link"], [b!"foo_bar", b!"baz_qux_link"], .file⟩]

/-- the guards are satisfiable … -/
example : LastOnly exRens ∧ DistinctSources exRens ∧ TreeWF exTree ∧ KindsOk exTree exRens ∧
    DestFree exTree exRens := by decide +kernel

example : preflightOk exTree exRens = true ∧ SiblingDestsDistinct exRens := by decide +kernel

/-- … `moveAll` is what one expects … -/
example : moveAll exRens exTree =
  [([b!"baz_qux"], .dir 493),
   ([b!"baz_qux", b!"baz_qux"], .dir 493),
   ([b!"baz_qux", b!"baz_qux", b!"baz_qux.txt"], .file b!"hello foo_bar" 420),
   ([b!"baz_qux", b!"baz_qux", b!"other.txt"], .file b!"x" 420),
   ([b!"baz_qux", b!"baz_qux_link"], .link b!"foo_bar/foo_bar.txt"),
   ([b!"README"], .file b!"r" 420)] := by decide +kernel

/-- … and the model of STEP 3 evaluates to it (independently of `renamePhase_ok`). -/
example : (renamePhase exTree [] (sortRens exRens)).outcome = .ok ∧
    (renamePhase exTree [] (sortRens exRens)).tree = moveAll exRens exTree := by decide +kernel

/-- `applyPlan_moves` is not vacuous: a plan that edits the innermost file and renames all levels -/
example :
    let p : Plan := { hunks := [{ file := [b!"foo_bar", b!"foo_bar", b!"foo_bar.txt"],
                                  before := b!"foo_bar", after := b!"baz_qux", start := 6, stop := 13 }],
                      rens := exRens }
    (contentPhase p.hunks exTree (sortedFiles p.hunks)).1 = .ok ∧
    (applyPlan exTree p).outcome = .ok ∧
    lookup (applyPlan exTree p).tree [b!"baz_qux", b!"baz_qux", b!"baz_qux.txt"]
      = some (.file b!"hello baz_qux" 420) := by decide +kernel

/-- the path-level guards hold on the example as well -/
example : FileLeaf exRens ∧ DistinctDests exRens ∧ NoChain exRens ∧
    (∀ e ∈ exTree, Fresh exRens e.1) := by decide +kernel

/-- a variant of the STEP 3 order: directories deepest first (the order the *planner* stores) -/
def sortRensBad (rs : List Ren) : List Ren :=
  sortBy (fun a b => decide (depth b.path ≤ depth a.path)) (rs.filter (fun r => r.kind == .dir)) ++
  sortBy (fun a b => decide (depth b.path ≤ depth a.path)) (rs.filter (fun r => r.kind == .file))

/-- Why the order matters: with directories processed deepest first and the same re-basing, the
    file's source is re-based on the *outer* rename only (`baz_qux/foo_bar/foo_bar.txt`, last match
    wins), which does not exist: the phase fails and rolls everything back. -/
theorem witness_shallow_last :
    (renamePhase exTree [] (sortRensBad exRens)).outcome = .renameFailed .ENOENT ∧
    (renamePhase exTree [] (sortRensBad exRens)).tree = exTree ∧
    execPath (sortRensBad exRens) [b!"foo_bar", b!"foo_bar", b!"foo_bar.txt"]
      = [b!"baz_qux", b!"baz_qux", b!"foo_bar.txt"] ∧
    finalPath exRens [b!"foo_bar", b!"foo_bar", b!"foo_bar.txt"]
      = [b!"baz_qux", b!"baz_qux", b!"baz_qux.txt"] := by decide +kernel

/-- `DestFree` is needed (1): a chain `foo → foofoo`, `foofoo → foofoofoofoo` in plan order
    (what `renamify rename foo foofoo` plans for the files `foo` and `foofoo`): STEP 3 on its own
    reports success, but the original `foofoo` has been overwritten — one node is lost (observed on
    the binary before the pre-flight check was added); with the pre-flight check `applyPlan` refuses. -/
theorem witness_chain_overwrites :
    let t : Tree := [([b!"foo"], .file b!"A" 420), ([b!"foofoo"], .file b!"B" 420)]
    let rs : List Ren := [⟨[b!"foo"], [b!"foofoo"], .file⟩, ⟨[b!"foofoo"], [b!"foofoofoofoo"], .file⟩]
    LastOnly rs ∧ DistinctSources rs ∧ TreeWF t ∧ KindsOk t rs ∧ ¬ DestFree t rs ∧
    (renamePhase t [] (sortRens rs)).outcome = .ok ∧
    (renamePhase t [] (sortRens rs)).tree = [([b!"foofoofoofoo"], .file b!"A" 420)] ∧
    moveAll rs t = [([b!"foofoo"], .file b!"A" 420), ([b!"foofoofoofoo"], .file b!"B" 420)] ∧
    (applyPlan t ⟨[], rs⟩).outcome = .destExists ∧ (applyPlan t ⟨[], rs⟩).tree = t := by decide +kernel

/-- `DestFree` is needed (2): the same chain in the *safe* sequential order `xa → a`, then
    `xxa → xa` (what `renamify rename xa a` plans for the files `xa`, `xxa`): the destination `xa`
    of the second rename is itself re-based on the first one and becomes `a/` — `ENOTDIR`,
    everything is rolled back, although executing the plan as written would have worked (observed
    on the binary before the pre-flight check was added; now `applyPlan` refuses up front). -/
theorem witness_chain_rebased_destination :
    let t : Tree := [([b!"xa"], .file b!"B" 420), ([b!"xxa"], .file b!"A" 420)]
    let rs : List Ren := [⟨[b!"xa"], [b!"a"], .file⟩, ⟨[b!"xxa"], [b!"xa"], .file⟩]
    LastOnly rs ∧ DistinctSources rs ∧ TreeWF t ∧ KindsOk t rs ∧ ¬ DestFree t rs ∧
    (renamePhase t [] (sortRens rs)).outcome = .renameFailed .ENOTDIR ∧
    (renamePhase t [] (sortRens rs)).tree = t ∧
    moveAll rs t = [([b!"a"], .file b!"B" 420), ([b!"xa"], .file b!"A" 420)] ∧
    (applyPlan t ⟨[], rs⟩).outcome = .destExists := by decide +kernel

/-- the same for directories: `b → c` then `a → b`; the second destination is re-based to `c/`,
    which is a non-empty directory by then -/
theorem witness_chain_rebased_destination_dir :
    let t : Tree := [([b!"a"], .dir 493), ([b!"a", b!"x"], .file b!"A" 420),
                     ([b!"b"], .dir 493), ([b!"b", b!"y"], .file b!"B" 420)]
    let rs : List Ren := [⟨[b!"b"], [b!"c"], .dir⟩, ⟨[b!"a"], [b!"b"], .dir⟩]
    LastOnly rs ∧ DistinctSources rs ∧ TreeWF t ∧ KindsOk t rs ∧ ¬ DestFree t rs ∧
    (renamePhase t [] (sortRens rs)).outcome = .renameFailed .ENOTEMPTY ∧
    (renamePhase t [] (sortRens rs)).tree = t := by decide +kernel

/-- the hypothesis of `nothing_else_moves` is satisfiable -/
example : ∀ r ∈ exRens, pre r.path [b!"README"] = false := by decide +kernel

/-- an identity rename is harmless (the guards do not exclude it) -/
example :
    let t : Tree := [([b!"a"], .dir 493), ([b!"a", b!"x"], .file b!"A" 420)]
    let rs : List Ren := [⟨[b!"a"], [b!"a"], .dir⟩, ⟨[b!"a", b!"x"], [b!"a", b!"y"], .file⟩]
    LastOnly rs ∧ DistinctSources rs ∧ TreeWF t ∧ KindsOk t rs ∧ DestFree t rs ∧
    (renamePhase t [] (sortRens rs)).tree = [([b!"a"], .dir 493), ([b!"a", b!"y"], .file b!"A" 420)] := by
  decide +kernel

/-- A successful apply moved the tree the content phase left — with no hypothesis about destinations: success
    implies `DestFree` (`destFree_iff_preflight_loop`). -/
theorem apply_ok_moves (t : Tree) (p : Plan) (h1 : LastOnly p.rens) (h2 : DistinctSources p.rens)
    (h3 : TreeWF t) (h4 : KindsOk t p.rens) (hok : (applyPlan t p).outcome = .ok) :
    DestFree t p.rens ∧ ∃ t1, contentPhase p.hunks t (sortedFiles p.hunks) = (.ok, t1) ∧
      (applyPlan t p).tree = moveAll p.rens t1 := by
  obtain ⟨hp, t1, hcp, heq⟩ := RenamePhase.applyPlan_ok hok
  have h5 := (destFree_iff_preflight_loop t p.rens h1 h3 h4).2 hp
  refine ⟨h5, t1, hcp, ?_⟩
  rw [heq, RenamePhase.renamePhase_after_content h1.toLemma h2 h3 h4 h5 hcp, moveAll_eq]

/-- APPLY, EXACTLY (C02 at full strength on the tree model).  For every tree and every plan whose renames change only the
    last component of distinct existing sources — any number of hunks in any number of files, any nesting of renamed
    directories — if `applyPlan` reports success then

        (applyPlan t p).tree  =  moveAll p.rens (editAll p.hunks files t)

    i.e. the ORIGINAL tree with (1) every planned file's bytes replaced by `applyEdits` of its original bytes and with its
    old mode, every other node (directories, symlinks, files without hunks) untouched, and then (2) every key rewritten by
    `finalPath` (its own rename and those of its ancestors) — as two `List.map`s over the tree, so nothing is added, dropped,
    merged or reordered.  No hypothesis about destinations (success implies `DestFree`, 9.5b) and none about the files of
    the plan (`sortedFiles_nodup`). -/
theorem apply_exact (t : Tree) (p : Plan) (h1 : LastOnly p.rens) (h2 : DistinctSources p.rens)
    (h3 : TreeWF t) (h4 : KindsOk t p.rens) (hok : (applyPlan t p).outcome = .ok) :
    (applyPlan t p).tree = moveAll p.rens (ContentPhase.editAll p.hunks (sortedFiles p.hunks) t) := by
  obtain ⟨_, t1, hcp, htree⟩ := apply_ok_moves t p h1 h2 h3 h4 hok
  rw [htree, ContentPhase.contentPhase_plan_exact p.hunks t t1 h3.1 hcp]

/-- … and the bytes are the ones the plan describes: for a planned file whose hunks are consistent with its bytes
    (ascending, disjoint, in range, on character boundaries, recorded text = text at the span — what `C03.findMatches_Consistent`
    proves of every plan the planner emits), the content after apply is the left-to-right splice `Edits.spec`. -/
theorem apply_exact_content (t : Tree) (p : Plan) (h1 : LastOnly p.rens) (h2 : DistinctSources p.rens)
    (h3 : TreeWF t) (h4 : KindsOk t p.rens) (hok : (applyPlan t p).outcome = .ok)
    (f : Path) (c : Bytes) (m : Nat) (hf : f ∈ sortedFiles p.hunks) (hl : lookup t f = some (.file c m))
    (hcons : Edits.Consistent c 0 (editsFor p.hunks f)) :
    lookup (applyPlan t p).tree (finalPath p.rens f) = some (.file (Edits.spec c 0 (editsFor p.hunks f)) m) := by
  obtain ⟨h5, t1, hcp, htree⟩ := apply_ok_moves t p h1 h2 h3 h4 hok
  have hs := RenamePhase.sameShape_contentPhase p.hunks (sortedFiles p.hunks) t
  rw [hcp] at hs
  -- the planned file after the content phase …
  have hlk : lookup t1 f = some (.file (Edits.spec c 0 (editsFor p.hunks f)) m) := by
    rw [ContentPhase.contentPhase_plan_exact p.hunks t t1 h3.1 hcp, ContentPhase.editAll,
      RenamePhase.lookup_map_node (fun k n => ContentPhase.editNode p.hunks (sortedFiles p.hunks) k n), hl]
    simp only [Option.map_some, ContentPhase.editNode, hf, ↓reduceIte, Edits.applyEdits_eq_spec c _ hcons]
  -- … is found at its final path: the content phase keeps the guards of the rename phase
  rw [htree, ← hlk]
  exact lookup_after t1 p.rens h1 (h3.toLemma.sameShape hs) (RenamePhase.GDestFree.sameShape h5 hs) _
    (RenamePhase.mem_of_lookup hlk)

/-- non-vacuity of `apply_exact` / `apply_exact_content`: an edited file inside a renamed directory, a renamed file -/
example :
    let t : Tree := [([b!"foo_bar"], .dir 493), ([b!"foo_bar", b!"a.txt"], .file b!"x foo_bar y\n" 420),
                     ([b!"foo_bar.txt"], .file b!"z" 384)]
    let p : Plan := { hunks := [⟨[b!"foo_bar", b!"a.txt"], b!"foo_bar", b!"baz_qux", 2, 9⟩],
                      rens := [⟨[b!"foo_bar"], [b!"baz_qux"], .dir⟩, ⟨[b!"foo_bar.txt"], [b!"baz_qux.txt"], .file⟩] }
    LastOnly p.rens ∧ DistinctSources p.rens ∧ TreeWF t ∧ KindsOk t p.rens ∧ (applyPlan t p).outcome = .ok ∧
    Edits.Consistent b!"x foo_bar y\n" 0 (editsFor p.hunks [b!"foo_bar", b!"a.txt"]) ∧
    (applyPlan t p).tree = [([b!"baz_qux"], .dir 493), ([b!"baz_qux", b!"a.txt"], .file b!"x baz_qux y\n" 420),
                            ([b!"baz_qux.txt"], .file b!"z" 384)] := by decide +kernel

end C02ren
