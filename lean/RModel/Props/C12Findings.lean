import RModel.Props.C12
/-
  C12 — the table-level defects of the PINNED tree (before the repo commits 451dd24, 35d666f, d33e63d, 469c078),
  kept as theorems over explicit old-style constants, not over the regenerated `Gen.LockUsers`: they document
  what the repairs changed and compile whatever the source looks like.  The statements about TODAY's source
  live in `Props/C12.lean` (`all_mutators_lock`, `lockers_exactly`, `drop_is_content_checked`, …); a repaired
  defect that comes back flips one of those.
-/
namespace C12
open Gen.LockUsers

/-- the lock-user table of the pinned tree (`translate/lock_users.py` on commit fa72c86) -/
def oldTable : List Row := [
  ⟨.init, false, false, false, false⟩,
  ⟨.search, true, true, true, true⟩,
  ⟨.rename, true, false, true, true⟩,
  ⟨.replace, false, false, false, false⟩,
  ⟨.plan, true, true, true, true⟩,
  ⟨.apply, false, false, false, false⟩,
  ⟨.undo, false, false, false, false⟩,
  ⟨.redo, false, false, false, false⟩,
  ⟨.status, false, false, false, false⟩,
  ⟨.history, false, false, false, false⟩,
  ⟨.version, false, false, false, false⟩,
  ⟨.testLock, true, false, true, true⟩
]

def locksIn (t : List Row) (c : Command) : Bool := t.any (fun r => r.cmd == c && r.locks)

theorem locksIn_table (c : Command) : locksIn table c = locks c := rfl

theorem lockers_exactly_old :
    (oldTable.filter (·.locks)).map (·.cmd) = [.search, .rename, .plan, .testLock] := by decide

theorem C12_witness_unlocked_apply_old : locksIn oldTable .apply = false := by decide
theorem C12_witness_unlocked_undo_old : locksIn oldTable .undo = false := by decide
theorem C12_witness_unlocked_redo_old : locksIn oldTable .redo = false := by decide
theorem C12_witness_unlocked_replace_old : locksIn oldTable .replace = false := by decide

/-- `C12_all_mutators_lock` was false on the pinned tree -/
theorem C12_all_mutators_lock_false_old : ¬ ∀ c ∈ mutating, locksIn oldTable c = true := by decide

/-- the pinned `lock.rs`: no unparsable file is ever removed, the lock file is created empty and written
    afterwards, Drop does not look at the content, the age is a plain subtraction — the model variant of
    `C12_witness_malformed_blocks`, `C12_witness_drop_removes_foreign`, `C12_witness_future_ts_panics` -/
def oldAbandon : Lock.Abandon := .none
def oldPublishByLink : Bool := false
def oldDropChecks : Bool := false
def oldAgeSaturates : Bool := false

theorem old_acquire_shape :
    Lock.expectedAcquireShape oldAbandon oldPublishByLink false =
      [.exists, .fileOpen, .readToString, .removeFile, .removeFile, .createDirAll,
       .openOptionsNew, .optWrite, .optCreateNew, .optOpen, .writeAll, .removeFile] ∧
    Lock.expectedDropShape oldDropChecks = [.exists, .removeFile] := by decide

/-- the model states of the witnesses in `Props/C12.lean` are the old variant: `base` builds them with these flags -/
theorem witnesses_use_old_variant (n now : Nat) (d e : Bool) :
    (Lock.initAbsent n now d e).abandon = oldAbandon ∧ (Lock.initAbsent n now d e).atomicPublish = oldPublishByLink ∧
    (Lock.initAbsent n now d e).dropChecks = oldDropChecks ∧ (Lock.initAbsent n now d e).saturating = oldAgeSaturates :=
  ⟨rfl, rfl, rfl, rfl⟩

end C12
