import RModel.Base.Lit
import RModel.Model.LinePipeline
import RModel.Gen.Acronyms
import RModel.Gen.Styles
import RModel.Gen.LineTables
import RModel.Lemmas.CaseModelAcr
import RModel.Lemmas.LineCompose
import RModel.Lemmas.LineEnv
import RModel.Lemmas.Resolver
/-
  C06 — Every case style of the term is found and rewritten in the same style.

  Model: `RModel/Model/LinePipeline.lean` (one line: variant map, exact pass, boundary test, replacement decision,
  first-letter fix-up, edit application; coercion, the context heuristics of the resolver and the compound pass are
  parameters `Env` with explicit contracts), instantiated with the models of the real code by `Model/LineEnv.lean`
  (`envReal`: coercion decision, compound pass) and `Model/Resolver.lean` (`heurReal`).  Tables (`Style::constraints`,
  `DEFAULT_PRECEDENCE`, the default style lists, regex meta characters) are regenerated from the source on every run
  (`Gen/LineTables.lean`).

  Vocabulary:  `Words ws` every word ≥ 2 lower-case ASCII letters;  `Neutral A ws` no acronym interference (C18);
  `V12` the twelve boundary-visible styles;  `NeutralDelim d` no byte of `d` is an ASCII letter/digit or `-`/`_` (so `""`,
  spaces, quotes, brackets, `/`, `::`, `.`, `,`, line ends, and every non-ASCII character);  `profileOf st` the
  separator/case profile of a multi-word rendering in style `st`.
-/
namespace C06
open B CaseModel LinePipeline

def A : Acr := acrOf Gen.defaultAcronyms

theorem acrOk_default : AcrOk A := acrOk_of_acrsAlnum (by decide +kernel)
theorem acrStable_default : AcrStable A := acrStable_acrOf _

/-- the stub instance of the parameters (what the driver op `rewriteline0` runs; `rewriteline` runs `lineHunksReal`, which
    keeps only `heur` of it): no context heuristic, coercion only through its first exit, no compound hunk -/
def env0 : Env :=
  { heur := fun _ => none
    coerce := fun ctx old _ => if coerceGuard ctx old then none else some [0]
    compound := fun _ => [] }

theorem env0_ok : env0.HeurOk ∧ env0.CoerceOk :=
  ⟨fun _ _ h => by simp [env0] at h, fun ctx old _ h => by simp [env0, h]⟩

/-- what the CLI runs: atomic configuration present (variant table from `case_model.rs`), plural variants off -/
def cfg0 (opts : StyleOpts) (search replace : Bytes) : Cfg :=
  { A := A, env := env0, opts := opts, plurals := false, sing := fun _ => none, plur := fun _ => none,
    search := search, replace := replace, cliPath := true }

/-- the same call through the core API without atomic configuration (the scanner's own variant loop) -/
def cfgApi (opts : StyleOpts) (search replace : Bytes) : Cfg :=
  { cfg0 opts search replace with cliPath := false }

-- clause 3 of the property: ambiguous occurrences

/-- EVERY style compatible with a text renders every replacement with the first-letter case of the text
    (finite check style × constraint class against the generated table, lifted to all texts by `can_match_style`) -/
theorem compatible_keeps_first_letter {A : Acr} {c d : UInt8} {cs t : Bytes} {ts : List Bytes} {st : Style}
    {styles : List Style} (h : st ∈ filterCompatible A (c :: cs) styles) (hc : isAlpha c = true)
    (hd : isAlpha d = true) :
    ∃ e r, toStyle A ((d :: t) :: ts) st = e :: r ∧ isUpper e = isUpper c :=
  canMatch_keeps_first_letter (mem_filterCompatible.mp h).2 hc hd

/-- the clause of the property: when the replacement text comes from the ambiguity branch of `generate_hunks`, it starts
    with an upper-case letter iff the match does -/
theorem ambiguous_keeps_case {A : Acr} {env : Env} {vm : SMap} {repl r cs t : Bytes} {c d : UInt8} {ts : List Bytes}
    (hh : env.HeurOk) (hb : baseReplacement A env vm (c :: cs) repl = some (.ambiguity, r))
    (hc : isAlpha c = true) (hp : parse A repl = (d :: t) :: ts) (hd : isAlpha d = true) :
    ∃ e r', r = e :: r' ∧ isUpper e = isUpper c := by
  obtain ⟨st, hm, rfl⟩ := baseReplacement_ambiguity hh hb
  rw [hp]
  exact compatible_keeps_first_letter hm hc hd

/-- … and an all-upper-case match (two leading capitals, not an acronym run) stays without lower-case letters -/
theorem ambiguous_keeps_all_upper {A : Acr} {env : Env} {vm : SMap} {repl r cs : Bytes} {c c' : UInt8}
    (hh : env.HeurOk) (hb : baseReplacement A env vm (c :: c' :: cs) repl = some (.ambiguity, r))
    (hc : isUpper c = true) (hc' : isUpper c' = true) (hcu : hasConsecutiveUpper A (c :: c' :: cs) = true) :
    hasLower r = false := by
  obtain ⟨st, hm, rfl⟩ := baseReplacement_ambiguity hh hb
  exact canMatch_keeps_all_upper _ (mem_filterCompatible.mp hm).2 hc hc' hcu

/-- non-vacuity: `FOOBAR` (upper-flat occurrence of foo_bar, enabled with --include-styles upper-flat) is ambiguous, goes
    through the ambiguity branch and stays all upper case; `Foo` keeps its capital -/
example : baseReplacement A env0 [] b!"FOOBAR" b!"baz_qux" = some (.ambiguity, b!"BAZ_QUX") ∧
    hasConsecutiveUpper A b!"FOOBAR" = true ∧
    baseReplacement A env0 [] b!"Foo" b!"baz_qux" = some (.ambiguity, b!"BazQux") := by decide +kernel

/-- the all-upper hypothesis is needed: an upper-case acronym is also PascalCase-compatible -/
theorem all_upper_needs_no_acronym :
    hasConsecutiveUpper A b!"API" = false ∧ Style.pascal ∈ filterCompatible A b!"API" Gen.allStyles := by
  decide +kernel

-- clause 1: a standalone occurrence in an enabled style

/-- at most one style of the generated constraint table admits the profile and the word bit of a multi-word rendering in
    style `st` (word bit: some word is not "capital followed by non-capitals") -/
def keyUnambiguousByTable (st : Style) : Bool :=
  decide ((Gen.allStyles.filter (nec (profileOf st) (styleWordBad st))).length ≤ 1)

/-- the key of every one of the twelve boundary-visible styles is unambiguous by the table (since 70c1048 Title has a row
    of its own: Title = `TitleWordsPattern`, Sentence = `TitlePattern`) -/
theorem unambiguous_styles_all : ∀ st ∈ V12, keyUnambiguousByTable st = true := by decide +kernel

/-- before the repair Title and Sentence shared the row `(TitlePattern, ' ')`: on that row the Sentence rendering "Foo bar"
    is admitted by BOTH styles (kernel-evaluated on the explicitly old row), which made it "ambiguous" and let the
    resolver's precedence pick Title — the finding `sentence_rendered_as_title`, fixed by 70c1048 -/
theorem C06_before_fix_shared_row :
    (checkCase A b!"Foo bar" .titlePattern && checkSep b!"Foo bar" (some 32)) = true ∧
    caseNec (profileOf .sentence) (styleWordBad .sentence) .titlePattern = true ∧
    Gen.defaultPrecedence.find? (fun s => [Style.title, .sentence].contains s) = some .title ∧
    toStyle A [b!"baz", b!"qux"] .title = b!"Baz Qux" ∧
    -- the repaired row rejects it
    checkCase A b!"Foo bar" .titleWordsPattern = false ∧
    caseNec (profileOf .sentence) (styleWordBad .sentence) .titleWordsPattern = false := by decide +kernel

/-- the key is unambiguous, so `generate_hunks` takes the variant-map entry -/
theorem variant_key_unambiguous {A : Acr} {ws : List Bytes} {st : Style} (h2 : 2 ≤ ws.length) (hw : Words ws)
    (ht : keyUnambiguousByTable st = true) :
    isAmbiguous A (toStyle A ws st) Gen.allStyles = false := by
  have hle := filterCompatible_length_le (A := A) (render_profile A h2 hw st) (render_wordBad A h2 hw) Gen.allStyles
  simp only [keyUnambiguousByTable, decide_eq_true_eq] at ht
  simp only [isAmbiguous, decide_eq_false_iff_not]
  omega

example : isAmbiguous A (toStyle A [b!"foo", b!"bar"] .train) Gen.allStyles = false :=
  variant_key_unambiguous (by decide) (by decide) (by decide)

/-- the boundary test holds between neutral delimiters -/
theorem boundary_holds_neutral_delims {d₁ x d₂ : Bytes} (h1 : NeutralDelim d₁) (h2 : NeutralDelim d₂) :
    isBoundary (d₁ ++ x ++ d₂) d₁.length (d₁.length + x.length) = true :=
  isBoundary_neutral h1 h2

example : NeutralDelim b!"::" ∧ NeutralDelim b!" (\"'[/.," ∧ NeutralDelim b!")]\n" ∧ ¬ NeutralDelim b!"-" ∧
    ¬ NeutralDelim b!"x " := by decide +kernel

/-- non-ASCII delimiters are neutral too: typographic quotes U+201C / U+201D, guillemets, CJK corner brackets, an em dash,
    a byte-order mark, and control bytes; the text after the occurrence must merely start a character -/
example : NeutralDelim [0xE2, 0x80, 0x9C] ∧ NeutralDelim [0xE2, 0x80, 0x9D] ∧ CharStart [0xE2, 0x80, 0x9D] ∧
    NeutralDelim [0xC2, 0xAB] ∧ CharStart [0xC2, 0xBB] ∧ NeutralDelim [0xE3, 0x80, 0x8C] ∧ CharStart [0xE3, 0x80, 0x8D] ∧
    NeutralDelim [0xE2, 0x80, 0x94] ∧ NeutralDelim [0xEF, 0xBB, 0xBF] ∧ NeutralDelim [0x01, 0x7F] ∧
    CharStart [] ∧ ¬ CharStart [0x80, 0x9D] := by decide +kernel

/-- the first-letter fix-up changes nothing when both texts are renderings in the same style -/
theorem first_letter_fixup_noop_same_style {A : Acr} {c d : UInt8} {w v : Bytes} {ws vs : List Bytes} (st : Style)
    (hc : isAlpha c = true) (hd : isAlpha d = true) :
    fixFirst (toStyle A ((c :: w) :: ws) st) (toStyle A ((d :: v) :: vs) st) = toStyle A ((d :: v) :: vs) st :=
  fixFirst_same_style st hc hd

/-- it is needed when the styles differ (the `exact entry` of the scanner's default map): `FOO_BAR` ↦ `baz-qux` -/
example : fixFirst b!"FOO_BAR" b!"baz-qux" = b!"Baz-qux" := by decide +kernel

/-- the guard of the composed theorem (all decidable):
    * the style list is not empty (`build_styles_list` returned `Some`; `--exclude-styles` of every default returns `None`)
    * the exact pass is not skipped (search typed without separator AND exactly one style)
    * the occurrence style is enabled, boundary-visible and its key unambiguous by the constraint table
    * plural variants off (`--no-plural-variants`; with them the pluralizer is a further parameter, checked differentially) -/
structure Guard (cfg : Cfg) (styles : List Style) (st : Style) : Prop where
  some_styles : buildStylesList cfg.opts = some styles
  not_skipped : skipExact cfg.A cfg.search (stylesSlice cfg.opts) = false
  enabled : st ∈ styles
  visible : st ∈ V12
  unambiguous : keyUnambiguousByTable st = true
  no_plurals : cfg.plurals = false
  coerce_ok : cfg.env.CoerceOk

/-- `Guard` without the contract of the coercion parameter -/
structure GuardReal (cfg : Cfg) (styles : List Style) (st : Style) : Prop where
  some_styles : buildStylesList cfg.opts = some styles
  not_skipped : skipExact cfg.A cfg.search (stylesSlice cfg.opts) = false
  enabled : st ∈ styles
  visible : st ∈ V12
  unambiguous : keyUnambiguousByTable st = true
  no_plurals : cfg.plurals = false

theorem GuardReal.guard {cfg : Cfg} {styles : List Style} {st : Style} (g : GuardReal cfg styles st)
    (h : cfg.env.CoerceOk) : Guard cfg styles st :=
  ⟨g.some_styles, g.not_skipped, g.enabled, g.visible, g.unambiguous, g.no_plurals, h⟩

theorem same_style_partial {cfg : Cfg} (hA : AcrOk cfg.A) (hS : AcrStable cfg.A) {ws_s ws_r : List Bytes}
    {sst rst st : Style} {styles : List Style} {d₁ d₂ : Bytes}
    (h2 : 2 ≤ ws_s.length) (hws : Words ws_s) (hwr : Words ws_r) (hrne : ws_r ≠ [])
    (hNs : Neutral cfg.A ws_s) (hNr : Neutral cfg.A ws_r) (hsst : sst ∈ V12) (hrst : rst ∈ V12)
    (hUs : sst ∈ upperStyles → UpperSafe cfg.A ws_s) (hUr : rst ∈ upperStyles → UpperSafe cfg.A ws_r)
    (hsearch : cfg.search = toStyle cfg.A ws_s sst) (hreplace : cfg.replace = toStyle cfg.A ws_r rst)
    (g : Guard cfg styles st) (h1 : NeutralDelim d₁) (hd2 : NeutralDelim d₂) (hcs : CharStart d₂)
    (hcomp : cfg.env.compound (d₁ ++ toStyle cfg.A ws_s st ++ d₂) = []) :
    rewriteLine cfg (d₁ ++ toStyle cfg.A ws_s st ++ d₂) = some (d₁ ++ toStyle cfg.A ws_r st ++ d₂) := by
  obtain ⟨hxk, hends, hget⟩ := vmap_words hA hS h2 hws hwr hNs hNr hsst hrst hUs hUr hsearch hreplace g.some_styles
    g.no_plurals g.enabled g.visible
  exact rewriteLine_occurrence g.not_skipped hxk hends (variant_key_unambiguous h2 hws g.unambiguous) hget
    (fixFirst_render hws (List.ne_nil_of_two h2) hwr hrne st) (render_ends cfg.A hrne hwr st) g.coerce_ok hcomp h1 hd2 hcs

/-- the row of the search term AS TYPED is the same-style row, for ANY style the replacement was typed in (in particular
    another style of the same separator family: `alpha_bravo → CHARLIE_DELTA` maps `alpha_bravo` to `charlie_delta`).
    The CLI always passes an explicit style list, so the "exact casing" entry of `generate_variant_map_internal`
    (`styles = None` only; C18 finding `exact_entry_override`) never takes part. -/
theorem typed_row_same_style {A : Acr} (hA : AcrOk A) (hS : AcrStable A) {ws_s ws_r : List Bytes} {sst rst : Style}
    (h2 : 2 ≤ ws_s.length) (hws : Words ws_s) (hwr : Words ws_r) (hNs : Neutral A ws_s) (hNr : Neutral A ws_r)
    (hsst : sst ∈ V12) (hrst : rst ∈ V12)
    (hUs : sst ∈ upperStyles → UpperSafe A ws_s) (hUr : rst ∈ upperStyles → UpperSafe A ws_r)
    (styles : List Style) (sing plur : Bytes → Option Bytes) (hen : sst ∈ styles) :
    (cliVariantMap A (some styles) false sing plur (toStyle A ws_s sst) (toStyle A ws_r rst)).get (toStyle A ws_s sst) =
      some (toStyle A ws_r sst) :=
  (cli_map_words hA hS h2 hws hwr hNs hNr hsst hrst hUs hUr styles sing plur hen hsst).2.2

/-- … kernel-evaluated on the four separator families, on both variant-table paths (CLI / core API) -/
theorem typed_row_same_style_families :
    rewriteLine (cfg0 {} b!"alpha_gamma" b!"TIGER_LEMON") b!"alpha_gamma\n" = some b!"tiger_lemon\n" ∧
    rewriteLine (cfg0 {} b!"ALPHA_GAMMA" b!"tiger_lemon") b!"ALPHA_GAMMA\n" = some b!"TIGER_LEMON\n" ∧
    rewriteLine (cfg0 {} b!"alphaGamma" b!"TigerLemon") b!"alphaGamma\n" = some b!"tigerLemon\n" ∧
    rewriteLine (cfg0 {} b!"alpha-gamma" b!"Tiger-Lemon") b!"alpha-gamma\n" = some b!"tiger-lemon\n" ∧
    rewriteLine (cfg0 {} b!"Alpha Gamma" b!"tiger lemon") b!"Alpha Gamma\n" = some b!"Tiger Lemon\n" ∧
    rewriteLine (cfgApi {} b!"alpha_gamma" b!"TIGER_LEMON") b!"alpha_gamma\n" = some b!"tiger_lemon\n" ∧
    rewriteLine (cfgApi {} b!"Alpha Gamma" b!"tiger lemon") b!"Alpha Gamma\n" = some b!"Tiger Lemon\n" := by
  decide +kernel

-- the running example: `foo_bar → baz_qux` under the default options

/-- its side conditions, evaluated once: the words, their neutrality, the typed terms as renderings -/
theorem ex_terms :
    Words [b!"foo", b!"bar"] ∧ Words [b!"baz", b!"qux"] ∧ Neutral A [b!"foo", b!"bar"] ∧ Neutral A [b!"baz", b!"qux"] ∧
    b!"foo_bar" = toStyle A [b!"foo", b!"bar"] .snake ∧ b!"baz_qux" = toStyle A [b!"baz", b!"qux"] .snake := by
  decide +kernel

/-- the guard holds for every style the default options enable -/
theorem ex_guard {st : Style} (hen : st ∈ Gen.defaultStyles) :
    GuardReal (cfg0 {} b!"foo_bar" b!"baz_qux") Gen.defaultStyles st :=
  have hvis : st ∈ V12 := (by decide : ∀ s ∈ Gen.defaultStyles, s ∈ V12) st hen
  ⟨by decide +kernel, by decide +kernel, hen, hvis, unambiguous_styles_all st hvis, rfl⟩

/-- non-vacuity of the guard: the default option set, Train-Case occurrence -/
example : Guard (cfg0 {} b!"foo_bar" b!"baz_qux") Gen.defaultStyles .train :=
  (ex_guard (by decide)).guard env0_ok.2

/-- `same_style_partial` instantiated: every enabled style, every delimiter pair at once -/
theorem ex_partial {st : Style} (hen : st ∈ Gen.defaultStyles) {d₁ d₂ : Bytes} (h1 : NeutralDelim d₁)
    (h2 : NeutralDelim d₂) (hc : CharStart d₂) :
    rewriteLine (cfg0 {} b!"foo_bar" b!"baz_qux") (d₁ ++ toStyle A [b!"foo", b!"bar"] st ++ d₂) =
      some (d₁ ++ toStyle A [b!"baz", b!"qux"] st ++ d₂) :=
  same_style_partial (cfg := cfg0 {} b!"foo_bar" b!"baz_qux") (sst := .snake) (rst := .snake) acrOk_default
    acrStable_default (by decide) ex_terms.1 ex_terms.2.1 (by decide) ex_terms.2.2.1 ex_terms.2.2.2.1 (by decide) (by decide)
    (fun h => absurd h (by decide)) (fun h => absurd h (by decide)) ex_terms.2.2.2.2.1 ex_terms.2.2.2.2.2
    ((ex_guard hen).guard env0_ok.2) h1 h2 hc rfl

/-- the theorem instantiated (default acronym set, vocabulary words): every delimiter pair at once -/
example {d₁ d₂ : Bytes} (h1 : NeutralDelim d₁) (h2 : NeutralDelim d₂) (hc : CharStart d₂) :
    rewriteLine (cfg0 {} b!"foo_bar" b!"baz_qux") (d₁ ++ b!"Foo-Bar" ++ d₂) = some (d₁ ++ b!"Baz-Qux" ++ d₂) :=
  ex_partial (st := .train) (by decide) h1 h2 hc

/-- … between typographic quotes: `“Foo Bar”` becomes `“Baz Qux”` (a space-separated style next to non-ASCII bytes:
    the third disjunct of `is_boundary`'s space branch) -/
example : rewriteLine (cfg0 {} b!"foo_bar" b!"baz_qux") ([0xE2, 0x80, 0x9C] ++ b!"Foo Bar" ++ [0xE2, 0x80, 0x9D, 10]) =
    some ([0xE2, 0x80, 0x9C] ++ b!"Baz Qux" ++ [0xE2, 0x80, 0x9D, 10]) :=
  ex_partial (st := .title) (by decide) (by decide) (by decide) (by decide)

/-- the repaired clause: a Sentence-case occurrence of a term of two or more words is rewritten in Sentence case -/
theorem sentence_rewritten_in_sentence_case {cfg : Cfg} (hA : AcrOk cfg.A) (hS : AcrStable cfg.A)
    {ws_s ws_r : List Bytes} {sst rst : Style} {styles : List Style} {d₁ d₂ : Bytes}
    (h2 : 2 ≤ ws_s.length) (hws : Words ws_s) (hwr : Words ws_r) (hrne : ws_r ≠ [])
    (hNs : Neutral cfg.A ws_s) (hNr : Neutral cfg.A ws_r) (hsst : sst ∈ V12) (hrst : rst ∈ V12)
    (hUs : sst ∈ upperStyles → UpperSafe cfg.A ws_s) (hUr : rst ∈ upperStyles → UpperSafe cfg.A ws_r)
    (hsearch : cfg.search = toStyle cfg.A ws_s sst) (hreplace : cfg.replace = toStyle cfg.A ws_r rst)
    (hstyles : buildStylesList cfg.opts = some styles) (hskip : skipExact cfg.A cfg.search (stylesSlice cfg.opts) = false)
    (hen : Style.sentence ∈ styles) (hpl : cfg.plurals = false) (hco : cfg.env.CoerceOk)
    (h1 : NeutralDelim d₁) (hd2 : NeutralDelim d₂) (hcs : CharStart d₂)
    (hcomp : cfg.env.compound (d₁ ++ toStyle cfg.A ws_s .sentence ++ d₂) = []) :
    rewriteLine cfg (d₁ ++ toStyle cfg.A ws_s .sentence ++ d₂) = some (d₁ ++ toStyle cfg.A ws_r .sentence ++ d₂) :=
  same_style_partial hA hS h2 hws hwr hrne hNs hNr hsst hrst hUs hUr hsearch hreplace
    ⟨hstyles, hskip, hen, by decide, by decide, hpl, hco⟩ h1 hd2 hcs hcomp

/-- … instantiated: default options, `foo_bar → baz_qux`, every pair of neutral delimiters -/
example {d₁ d₂ : Bytes} (h1 : NeutralDelim d₁) (h2 : NeutralDelim d₂) (hc : CharStart d₂) :
    rewriteLine (cfg0 {} b!"foo_bar" b!"baz_qux") (d₁ ++ b!"Foo bar" ++ d₂) = some (d₁ ++ b!"Baz qux" ++ d₂) :=
  ex_partial (st := .sentence) (by decide) h1 h2 hc

/-- the property at full strength, for every option set; neither proved nor refuted (`same_style_partial` is the part
    proved; the inputs that refuted it are the repaired witnesses below) -/
def same_style_full : Prop :=
  ∀ (opts : StyleOpts) (ws_s ws_r : List Bytes) (sst rst st : Style) (d₁ d₂ : Bytes),
    2 ≤ ws_s.length → Words ws_s → Words ws_r → ws_r ≠ [] → Neutral A ws_s → Neutral A ws_r →
    UpperSafe A ws_s → UpperSafe A ws_r → sst ∈ V12 → rst ∈ V12 → st ∈ V12 →
    NeutralDelim d₁ → NeutralDelim d₂ → CharStart d₂ →
    rewriteLine (cfg0 opts (toStyle A ws_s sst) (toStyle A ws_r rst)) (d₁ ++ toStyle A ws_s st ++ d₂) =
      some (if (Gen.defaultStyles.filter (fun s => !opts.excl.contains s) ++ opts.incl ++ opts.only).contains st &&
               (opts.only.isEmpty || opts.only.contains st)
            then d₁ ++ toStyle A ws_r st ++ d₂ else d₁ ++ toStyle A ws_s st ++ d₂)

-- clause 2: disabled styles

/-- an occurrence in a disabled style stays, provided no enabled rendering occurs in the line (`hno`, decidable; the
    oracle exercises it on every disabled case) -/
theorem disabled_untouched {cfg : Cfg} {ws_s : List Bytes} {st : Style} {d₁ d₂ : Bytes}
    (hno : ∀ i, i < (d₁ ++ toStyle cfg.A ws_s st ++ d₂).length →
      firstAlt (sortKeys cfg.vmap.keys) ((d₁ ++ toStyle cfg.A ws_s st ++ d₂).drop i) = none)
    (hcomp : cfg.env.compound (d₁ ++ toStyle cfg.A ws_s st ++ d₂) = []) :
    rewriteLine cfg (d₁ ++ toStyle cfg.A ws_s st ++ d₂) = some (d₁ ++ toStyle cfg.A ws_s st ++ d₂) :=
  rewriteLine_no_key hno hcomp

/-- non-vacuity: `--only-styles snake`, kebab occurrence in parentheses -/
example : rewriteLine (cfg0 { only := [.snake] } b!"foo_bar" b!"baz_qux") (b!"(" ++ toStyle A [b!"foo", b!"bar"] .kebab ++ b!")\n")
    = some b!"(foo-bar)\n" :=
  disabled_untouched (cfg := cfg0 { only := [.snake] } b!"foo_bar" b!"baz_qux") (by decide +kernel) rfl

/-- the compound pass leaves an identifier alone whose tokens are the search term's tokens (first exit of
    `find_compound_variants`): the tokens of any rendering are the words, up to case -/
theorem compound_skips_the_term_itself {A : Acr} (hA : AcrOk A) (hS : AcrStable A) {ws : List Bytes} {st sst : Style}
    (hw : Words ws) (hN : Neutral A ws) (hst : st ∈ V12) (hsst : sst ∈ V12) :
    (parse A (toStyle A ws st)).map lower = (parse A (toStyle A ws sst)).map lower := by
  rw [parse_rendWords hA hS hw hN hst, parse_rendWords hA hS hw hN hsst,
    map_lower_rendWords hw.lowerWords, map_lower_rendWords hw.lowerWords]

-- witnesses of the repaired findings (kernel-evaluated; replayed on the real code by checks/c06.py)

/-- repaired (was finding `sentence_rendered_as_title`): "Foo bar" is compatible with Sentence only, the map entry is used -/
theorem C06_sentence_repaired :
    filterCompatible A b!"Foo bar" Gen.allStyles = [.sentence] ∧
    filterCompatible A b!"Foo Bar" Gen.allStyles = [.title] ∧
    filterCompatible A b!"Foo" Gen.allStyles = [.pascal, .train, .title, .sentence] ∧
    rewriteLine (cfg0 {} b!"foo_bar" b!"baz_qux") b!"\"Foo bar\"\n" = some b!"\"Baz qux\"\n" :=
  ⟨by decide +kernel, by decide +kernel, by decide +kernel,
    ex_partial (st := .sentence) (d₁ := b!"\"") (d₂ := b!"\"\n") (by decide) (by decide) (by decide) (by decide)⟩

/-- repaired (was finding `exclude_all_reenables_defaults`): excluding every default style reaches the scanner as the empty
    list, no variant is generated and the excluded snake_case occurrence stays -/
theorem C06_exclude_all_repaired :
    buildStylesList { excl := Gen.defaultStyles } = some [] ∧
    (cfg0 { excl := Gen.defaultStyles } b!"foo_bar" b!"baz_qux").vmap = [] ∧
    rewriteLine (cfg0 { excl := Gen.defaultStyles } b!"foo_bar" b!"baz_qux") b!"foo_bar\n" = some b!"foo_bar\n" := by
  decide +kernel

/-- … and also when the replacement itself was typed in Sentence case (held before the repair too) -/
theorem C06_sentence_typed :
    rewriteLine (cfg0 {} b!"foo_bar" b!"Baz qux") b!"Foo bar\n" = some b!"Baz qux\n" := by decide +kernel

/-- repaired (was finding `single_style_separatorless_search_unmatched`): a term typed `fooBar` tokenizes to two words, so
    the exact pass runs with a single enabled style too; a true one-word term still takes the compound-only path -/
theorem C06_single_style_repaired :
    skipExact A b!"fooBar" (stylesSlice { only := [.camel] }) = false ∧
    skipExact A b!"foo" (stylesSlice { only := [.camel] }) = true ∧
    rewriteLine (cfg0 { only := [.camel] } b!"fooBar" b!"bazQux") b!"fooBar\n" = some b!"bazQux\n" ∧
    rewriteLine (cfg0 { only := [.snake] } b!"fooBar" b!"bazQux") b!"foo_bar\n" = some b!"baz_qux\n" := by
  decide +kernel

/-  The composed model (Model/LineEnv.lean): `envReal c` instantiates the parameters `coerce` and `compound` of `Env` with
    the models of the real code (`RenamePlan.applyCoercion` + `apply_coercion_to_variant`; `Compound.findAll` /
    `findCompound` / overlap resolution); `rewriteLineReal c` is the pipeline the driver op `rewriteline` runs.  The theorems
    below are the clause-1 theorems without the hypotheses `CoerceOk` and `compound … = []`: both are proved for the real
    environment, for every pair of neutral delimiters (`.`, white space, non-ASCII bytes included). -/

/-- the real coercion decision returns `None` when the immediate context is the match itself — no hypothesis -/
theorem envReal_coerceOk (c : Cfg) : (envReal c).CoerceOk := LinePipeline.envReal_coerceOk c

/-- non-vacuity, and the other side: the contract says nothing when the context is larger — there the real decision acts
    (`x_FOO_BAR` is snake_case with a capital run: the replacement is re-rendered in snake_case) -/
example : coerceGuard b!"foo_bar" b!"foo_bar" = true ∧ coerceGuard b!"__Foo_Bar" b!"foo_bar" = true ∧
    coerceReal coerceTables b!"foo_bar" b!"foo_bar" b!"baz_qux" = none ∧
    coerceGuard b!"x_FOO_BAR" b!"FOO_BAR" = false ∧
    coerceReal coerceTables b!"x_FOO_BAR" b!"FOO_BAR" b!"BAZ_QUX" = some b!"baz_qux" ∧
    coerceReal coerceTables b!"my-FOO_BAR" b!"FOO_BAR" b!"BAZ_QUX" = none := by decide +kernel

/-- on `d₁ ++ x ++ d₂` — ANY neutral delimiters, `x` a key of a variant map whose keys start and end with a letter —
    the real compound pass contributes no hunk: every identifier the extractor finds on the line (both alternatives of its
    regex, Title-case words spanning spaces, dot splitting) lies inside the exact match, so `find_compound_variants` is
    never asked, and the overlap resolution has a single candidate -/
theorem envReal_compound_nil {c : Cfg} {d₁ x d₂ v : Bytes}
    (hskip : skipExact c.A c.search (stylesSlice c.opts) = false)
    (hx : x ∈ c.vmap.keys) (hk : ∀ k ∈ c.vmap.keys, Ends k) (hget : c.vmap.get x = some v)
    (h1 : NeutralDelim d₁) (h2 : NeutralDelim d₂) : (envReal c).compound (d₁ ++ x ++ d₂) = [] :=
  LinePipeline.envReal_compound_nil hskip hx hk hget h1 h2

/-- … for the rendering of the search words in an enabled boundary-visible style -/
theorem envReal_compound_nil_rendered {c : Cfg} (hA : AcrOk c.A) (hS : AcrStable c.A) {ws_s ws_r : List Bytes}
    {sst rst st : Style} {styles : List Style} {d₁ d₂ : Bytes}
    (h2 : 2 ≤ ws_s.length) (hws : Words ws_s) (hwr : Words ws_r)
    (hNs : Neutral c.A ws_s) (hNr : Neutral c.A ws_r) (hsst : sst ∈ V12) (hrst : rst ∈ V12)
    (hUs : sst ∈ upperStyles → UpperSafe c.A ws_s) (hUr : rst ∈ upperStyles → UpperSafe c.A ws_r)
    (hsearch : c.search = toStyle c.A ws_s sst) (hreplace : c.replace = toStyle c.A ws_r rst)
    (g : GuardReal c styles st) (h1 : NeutralDelim d₁) (hd2 : NeutralDelim d₂) :
    (envReal c).compound (d₁ ++ toStyle c.A ws_s st ++ d₂) = [] := by
  obtain ⟨hx, hk, hget⟩ := vmap_words hA hS h2 hws hwr hNs hNr hsst hrst hUs hUr hsearch hreplace g.some_styles
    g.no_plurals g.enabled g.visible
  exact envReal_compound_nil g.not_skipped hx hk hget h1 hd2

/-- non-vacuity, with delimiters that are identifier bytes of the extractor's regex (`.`) and Title-case words across
    spaces: `..Foo Bar. ` under the default options (Title enabled) -/
example : (envReal (cfg0 {} b!"foo_bar" b!"baz_qux")).compound (b!".." ++ b!"Foo Bar" ++ b!". \n") = [] :=
  envReal_compound_nil_rendered (c := cfg0 {} b!"foo_bar" b!"baz_qux") (ws_s := [b!"foo", b!"bar"])
    (ws_r := [b!"baz", b!"qux"]) (sst := .snake) (rst := .snake) (st := .title) acrOk_default acrStable_default (by decide) ex_terms.1 ex_terms.2.1 ex_terms.2.2.1 ex_terms.2.2.2.1 (by decide)
    (by decide) (fun h => absurd h (by decide)) (fun h => absurd h (by decide)) ex_terms.2.2.2.2.1 ex_terms.2.2.2.2.2
    (ex_guard (by decide)) (by decide) (by decide)

/-- clause 1 for the REAL environment: `same_style_partial` with `cfg.env = envReal c`, without `CoerceOk` and without the
    hypothesis on the compound pass -/
theorem same_style_real {c : Cfg} (hA : AcrOk c.A) (hS : AcrStable c.A) {ws_s ws_r : List Bytes}
    {sst rst st : Style} {styles : List Style} {d₁ d₂ : Bytes}
    (h2 : 2 ≤ ws_s.length) (hws : Words ws_s) (hwr : Words ws_r) (hrne : ws_r ≠ [])
    (hNs : Neutral c.A ws_s) (hNr : Neutral c.A ws_r) (hsst : sst ∈ V12) (hrst : rst ∈ V12)
    (hUs : sst ∈ upperStyles → UpperSafe c.A ws_s) (hUr : rst ∈ upperStyles → UpperSafe c.A ws_r)
    (hsearch : c.search = toStyle c.A ws_s sst) (hreplace : c.replace = toStyle c.A ws_r rst)
    (g : GuardReal c styles st) (h1 : NeutralDelim d₁) (hd2 : NeutralDelim d₂) (hcs : CharStart d₂) :
    rewriteLine (cfgReal c) (d₁ ++ toStyle c.A ws_s st ++ d₂) = some (d₁ ++ toStyle c.A ws_r st ++ d₂) := by
  obtain ⟨hx, hk, hget⟩ := vmap_words hA hS h2 hws hwr hNs hNr hsst hrst hUs hUr hsearch hreplace g.some_styles
    g.no_plurals g.enabled g.visible
  exact rewriteLine_real_occurrence g.not_skipped hx hk (variant_key_unambiguous h2 hws g.unambiguous) hget
    (fixFirst_render hws (List.ne_nil_of_two h2) hwr hrne st) (render_ends c.A hrne hwr st) h1 hd2 hcs

/-- … and for the pipeline the driver runs (pre-filter, overlap resolution that may drop exact matches): on such a line it
    IS `rewriteLine (cfgReal c)` -/
theorem same_style_composed {c : Cfg} (hA : AcrOk c.A) (hS : AcrStable c.A) {ws_s ws_r : List Bytes}
    {sst rst st : Style} {styles : List Style} {d₁ d₂ : Bytes}
    (h2 : 2 ≤ ws_s.length) (hws : Words ws_s) (hwr : Words ws_r) (hrne : ws_r ≠ [])
    (hNs : Neutral c.A ws_s) (hNr : Neutral c.A ws_r) (hsst : sst ∈ V12) (hrst : rst ∈ V12)
    (hUs : sst ∈ upperStyles → UpperSafe c.A ws_s) (hUr : rst ∈ upperStyles → UpperSafe c.A ws_r)
    (hsearch : c.search = toStyle c.A ws_s sst) (hreplace : c.replace = toStyle c.A ws_r rst)
    (g : GuardReal c styles st) (h1 : NeutralDelim d₁) (hd2 : NeutralDelim d₂) (hcs : CharStart d₂) :
    rewriteLineReal c (d₁ ++ toStyle c.A ws_s st ++ d₂) = some (d₁ ++ toStyle c.A ws_r st ++ d₂) := by
  obtain ⟨hx, hk, hget⟩ := vmap_words hA hS h2 hws hwr hNs hNr hsst hrst hUs hUr hsearch hreplace g.some_styles
    g.no_plurals g.enabled g.visible
  rw [rewriteLineReal_occurrence g.not_skipped hx hk h1 hd2]
  exact same_style_real hA hS h2 hws hwr hrne hNs hNr hsst hrst hUs hUr hsearch hreplace g h1 hd2 hcs

/-- non-vacuity of the guard -/
example : GuardReal (cfg0 {} b!"foo_bar" b!"baz_qux") Gen.defaultStyles .train :=
  ex_guard (by decide)

/-- `same_style_composed` instantiated: every enabled style, every delimiter pair at once -/
theorem ex_composed {st : Style} (hen : st ∈ Gen.defaultStyles) {d₁ d₂ : Bytes} (h1 : NeutralDelim d₁)
    (h2 : NeutralDelim d₂) (hc : CharStart d₂) :
    rewriteLineReal (cfg0 {} b!"foo_bar" b!"baz_qux") (d₁ ++ toStyle A [b!"foo", b!"bar"] st ++ d₂) =
      some (d₁ ++ toStyle A [b!"baz", b!"qux"] st ++ d₂) :=
  same_style_composed (c := cfg0 {} b!"foo_bar" b!"baz_qux") (sst := .snake) (rst := .snake) acrOk_default
    acrStable_default (by decide) ex_terms.1 ex_terms.2.1 (by decide) ex_terms.2.2.1 ex_terms.2.2.2.1 (by decide) (by decide)
    (fun h => absurd h (by decide)) (fun h => absurd h (by decide)) ex_terms.2.2.2.2.1 ex_terms.2.2.2.2.2 (ex_guard hen)
    h1 h2 hc

/-- instantiated: default options, Train-Case occurrence, every delimiter pair at once, composed model -/
example {d₁ d₂ : Bytes} (h1 : NeutralDelim d₁) (h2 : NeutralDelim d₂) (hc : CharStart d₂) :
    rewriteLineReal (cfg0 {} b!"foo_bar" b!"baz_qux") (d₁ ++ b!"Foo-Bar" ++ d₂) = some (d₁ ++ b!"Baz-Qux" ++ d₂) :=
  ex_composed (st := .train) (by decide) h1 h2 hc

/-- the Sentence corollary for the real environment -/
theorem sentence_rewritten_in_sentence_case_real {c : Cfg} (hA : AcrOk c.A) (hS : AcrStable c.A)
    {ws_s ws_r : List Bytes} {sst rst : Style} {styles : List Style} {d₁ d₂ : Bytes}
    (h2 : 2 ≤ ws_s.length) (hws : Words ws_s) (hwr : Words ws_r) (hrne : ws_r ≠ [])
    (hNs : Neutral c.A ws_s) (hNr : Neutral c.A ws_r) (hsst : sst ∈ V12) (hrst : rst ∈ V12)
    (hUs : sst ∈ upperStyles → UpperSafe c.A ws_s) (hUr : rst ∈ upperStyles → UpperSafe c.A ws_r)
    (hsearch : c.search = toStyle c.A ws_s sst) (hreplace : c.replace = toStyle c.A ws_r rst)
    (hstyles : buildStylesList c.opts = some styles) (hskip : skipExact c.A c.search (stylesSlice c.opts) = false)
    (hen : Style.sentence ∈ styles) (hpl : c.plurals = false)
    (h1 : NeutralDelim d₁) (hd2 : NeutralDelim d₂) (hcs : CharStart d₂) :
    rewriteLineReal c (d₁ ++ toStyle c.A ws_s .sentence ++ d₂) = some (d₁ ++ toStyle c.A ws_r .sentence ++ d₂) :=
  same_style_composed hA hS h2 hws hwr hrne hNs hNr hsst hrst hUs hUr hsearch hreplace
    ⟨hstyles, hskip, hen, by decide, by decide, hpl⟩ h1 hd2 hcs

/-- … instantiated: default options, `foo_bar → baz_qux`, every pair of neutral delimiters, composed model -/
example {d₁ d₂ : Bytes} (h1 : NeutralDelim d₁) (h2 : NeutralDelim d₂) (hc : CharStart d₂) :
    rewriteLineReal (cfg0 {} b!"foo_bar" b!"baz_qux") (d₁ ++ b!"Foo bar" ++ d₂) = some (d₁ ++ b!"Baz qux" ++ d₂) :=
  ex_composed (st := .sentence) (by decide) h1 h2 hc

/-- clause 2 for the composed model, kernel-evaluated: with `--only-styles snake` neither the kebab-case occurrence nor the
    camelCase identifier that embeds the term is touched (the compound matcher refuses a style that is not enabled) -/
theorem disabled_untouched_real :
    rewriteLineReal (cfg0 { only := [.snake] } b!"foo_bar" b!"baz_qux") b!"(foo-bar) myFooBarItem\n" =
      some b!"(foo-bar) myFooBarItem\n" := by decide +kernel

/-- why `rewriteLineReal` is not simply `rewriteLine (cfgReal c)`: the overlap resolution DROPS the exact match `foo_bar`
    inside `my_foo_bar_item` in favour of the compound match; `Env.compound` can only add hunks, so `lineHunks (cfgReal c)`
    = hunks of ALL exact matches + `compound` still carries the hunk of the exact match at 3..10 next to the compound hunk
    0..15, while `lineHunksReal` (exact branch on `keptExact` only) has the one hunk the real plan has -/
theorem dropped_exact_match_needs_composed_pipeline :
    exactMatches b!"my_foo_bar_item\n" (cfgReal (cfg0 {} b!"foo_bar" b!"baz_qux")).vmap.keys = [(3, b!"foo_bar")] ∧
    (cfgReal (cfg0 {} b!"foo_bar" b!"baz_qux")).env.compound b!"my_foo_bar_item\n" =
      [(0, 15, b!"my_foo_bar_item", b!"my_baz_qux_item")] ∧
    keptExact (cfg0 {} b!"foo_bar" b!"baz_qux") b!"my_foo_bar_item\n" = [] ∧
    (lineHunksReal (cfg0 {} b!"foo_bar" b!"baz_qux") b!"my_foo_bar_item\n").map
      (·.map (fun e => (e.start, e.stop))) = some [(0, 15)] ∧
    rewriteLineReal (cfg0 {} b!"foo_bar" b!"baz_qux") b!"my_foo_bar_item\n" = some b!"my_baz_qux_item\n" ∧
    rewriteLineReal (cfg0 {} b!"foo_bar" b!"baz_qux") b!"(foo_bar) cfg.fooBar.my-foo-bar FOO_BAR_X\n" =
      some b!"(baz_qux) cfg.bazQux.my-baz-qux BAZ_QUX_X\n" := by decide +kernel

/-- the compound pass is NOT silent once a delimiter is an identifier byte (`_`, `-`, a letter): these are the lines of the
    differential family `busy lines` -/
theorem compound_pass_not_silent :
    (envReal (cfg0 {} b!"foo_bar" b!"baz_qux")).compound b!"my_foo_bar_item\n" =
      [(0, 15, b!"my_foo_bar_item", b!"my_baz_qux_item")] ∧
    (envReal (cfg0 {} b!"foo_bar" b!"baz_qux")).compound b!"cfg.getFooBar(x)\n" =
      [(4, 13, b!"getFooBar", b!"getBazQux")] :=
  ⟨dropped_exact_match_needs_composed_pipeline.2.1, by decide +kernel⟩

/-  `NeutralDelim` is a statement about BYTES: no byte of the delimiter is an ASCII letter, digit, `-` or `_`.  The model's
    `immediateContext` (and its boundary test) treat every byte >= 0x80 as a non-word byte, whereas
    `scanner.rs::extract_immediate_context` asks `char::is_alphanumeric` of the DECODED character: for a non-ASCII LETTER or
    digit directly next to the occurrence (`éFOO_BAR`, `ßFOO_BAR`) the code extends the context over it and coerces, the
    model does not (reproduced; `日FOO_BAR` agrees by accident).  A letter is not a delimiter, so this lies outside C06's
    quantifier — but it also lies inside `NeutralDelim`.  The property theorems below therefore restrict the delimiters to
    the alphabet on which model and code are compared on every run: ASCII neutral bytes and whole characters of
    `validatedPunct` (exactly the non-ASCII delimiters of `checks/c06.py::DELIMS`). -/

/-- UTF-8 encodings of U+201C U+201D U+2018 U+2019 U+00AB U+00BB U+300C U+300D U+2014 U+2026 U+FEFF U+2122 -/
def validatedPunct : List Bytes :=
  [[0xE2, 0x80, 0x9C], [0xE2, 0x80, 0x9D], [0xE2, 0x80, 0x98], [0xE2, 0x80, 0x99], [0xC2, 0xAB], [0xC2, 0xBB],
   [0xE3, 0x80, 0x8C], [0xE3, 0x80, 0x8D], [0xE2, 0x80, 0x94], [0xE2, 0x80, 0xA6], [0xEF, 0xBB, 0xBF], [0xE2, 0x84, 0xA2]]

def neutralTextAux : Nat → Bytes → Bool
  | _, [] => true
  | 0, _ => false
  | n + 1, c :: cs =>
    if decide (c.toNat < 128) then neutralByte c && neutralTextAux n cs
    else match validatedPunct.find? (fun p => p.isPrefixOf (c :: cs)) with
      | some p => neutralTextAux n ((c :: cs).drop p.length)
      | none => false

/-- the delimiter is a sequence of ASCII neutral bytes and whole validated punctuation characters -/
def NeutralText (d : Bytes) : Prop := neutralTextAux d.length d = true

instance (d : Bytes) : Decidable (NeutralText d) := by unfold NeutralText; infer_instance

theorem validatedPunct_facts : ∀ p ∈ validatedPunct, NeutralDelim p ∧ CharStart p ∧ p ≠ [] := by decide +kernel

theorem neutralTextAux_sound : ∀ (n : Nat) (d : Bytes), neutralTextAux n d = true → NeutralDelim d ∧ CharStart d
  | _, [], _ => ⟨fun _ h => (nomatch h), fun _ h => (nomatch h)⟩
  | n + 1, c :: cs, h => by
    unfold neutralTextAux at h
    split at h
    · -- an ASCII byte
      rename_i hlt
      rw [Bool.and_eq_true] at h
      exact ⟨List.forall_mem_cons.mpr ⟨h.1, (neutralTextAux_sound n cs h.2).1⟩,
        fun z hz => Option.some.inj hz ▸ Utf8.isCont_eq_false (.inl (of_decide_eq_true hlt))⟩
    · split at h
      · -- a validated character `p`, then the rest
        rename_i p hf
        have hp : p.isPrefixOf (c :: cs) = true := by simpa using List.find?_some hf
        obtain ⟨rest, hrest⟩ := List.isPrefixOf_iff_prefix.mp hp
        obtain ⟨hb, hcont, hne⟩ := validatedPunct_facts p (List.mem_of_find?_eq_some hf)
        obtain ⟨a, p', rfl⟩ := List.exists_cons_of_ne_nil hne
        rw [← hrest, List.drop_left' rfl] at h
        rw [← hrest]
        exact ⟨List.forall_mem_append.mpr ⟨hb, (neutralTextAux_sound n rest h).1⟩, hcont⟩
      · cases h

theorem NeutralText.sound {d : Bytes} (h : NeutralText d) : NeutralDelim d ∧ CharStart d :=
  neutralTextAux_sound d.length d h

/-- C06, clause 1, on the validated domain, for the COMPOSED model (real coercion decision, real compound pass, overlap
    resolution; only the resolver heuristics are a parameter, and they are not consulted for an unambiguous key): a standalone
    occurrence in an enabled boundary-visible style between validated delimiters is rewritten in the same style. -/
theorem same_style_validated {c : Cfg} (hA : AcrOk c.A) (hS : AcrStable c.A) {ws_s ws_r : List Bytes}
    {sst rst st : Style} {styles : List Style} {d₁ d₂ : Bytes}
    (h2 : 2 ≤ ws_s.length) (hws : Words ws_s) (hwr : Words ws_r) (hrne : ws_r ≠ [])
    (hNs : Neutral c.A ws_s) (hNr : Neutral c.A ws_r) (hsst : sst ∈ V12) (hrst : rst ∈ V12)
    (hUs : sst ∈ upperStyles → UpperSafe c.A ws_s) (hUr : rst ∈ upperStyles → UpperSafe c.A ws_r)
    (hsearch : c.search = toStyle c.A ws_s sst) (hreplace : c.replace = toStyle c.A ws_r rst)
    (g : GuardReal c styles st) (h1 : NeutralText d₁) (hd2 : NeutralText d₂) :
    rewriteLineReal c (d₁ ++ toStyle c.A ws_s st ++ d₂) = some (d₁ ++ toStyle c.A ws_r st ++ d₂) :=
  same_style_composed hA hS h2 hws hwr hrne hNs hNr hsst hrst hUs hUr hsearch hreplace g h1.sound.1 hd2.sound.1 hd2.sound.2

/-- non-vacuity: ASCII and validated non-ASCII delimiters mixed; a letter or a lone continuation byte is not in the domain -/
example : NeutralText b!" (\"" ∧ NeutralText ([0xE2, 0x80, 0x9C] ++ b!" ") ∧ NeutralText ([0xE2, 0x80, 0x9D] ++ b!".\n") ∧
    NeutralText [0xEF, 0xBB, 0xBF, 0xC2, 0xAB] ∧ NeutralText [] ∧
    ¬ NeutralText [0xC3, 0xA9] ∧ ¬ NeutralText [0x80] ∧ ¬ NeutralText b!"x" := by decide +kernel

/-- WHERE MODEL AND CODE PART (outside the validated domain, inside `NeutralDelim`): the model keeps `éFOO_BAR` in its style;
    the real code answers `éBaz_qux` (its context extraction counts `é` as a letter).  Recorded so that nobody mistakes the
    byte-level theorems for statements about letters. -/
theorem model_is_byte_level_outside_the_validated_domain :
    NeutralDelim [0xC3, 0xA9] ∧ ¬ NeutralText [0xC3, 0xA9] ∧
    rewriteLineReal (cfg0 {} b!"foo_bar" b!"baz_qux") ([0xC3, 0xA9] ++ b!"FOO_BAR" ++ b!"\n") =
      some ([0xC3, 0xA9] ++ b!"BAZ_QUX" ++ b!"\n") :=
  have h : NeutralDelim [0xC3, 0xA9] := by decide
  ⟨h, by decide +kernel, ex_composed (st := .screamingSnake) (by decide) h (by decide) (by decide)⟩

/-- the clause at full strength for a line with SEVERAL occurrences: a standalone occurrence is rewritten in its own style
    whatever precedes its left delimiter on the line.  Not proved (the compound pass and the overlap resolution on the rest
    of the line are arbitrary); the input that refuted it until 9271db5 (finding `coercion_context_of_first_occurrence`)
    is the theorem below. -/
def every_occurrence_full : Prop :=
  ∀ (p d₁ d₂ : Bytes), d₁ ≠ [] → NeutralDelim d₁ → NeutralDelim d₂ → CharStart d₂ →
    ∃ p', rewriteLineReal (cfg0 {} b!"foo_bar" b!"baz_qux") (p ++ d₁ ++ b!"FOO_BAR" ++ d₂) =
      some (p' ++ d₁ ++ b!"BAZ_QUX" ++ d₂)

/-- REPAIRED (9271db5; the flag is read from the source).  `generate_hunks` used to look for the match text with
    `line_string.find(&content)` — the FIRST place in the line where that text occurs, not the column of the match — and took
    the "immediate context" for coercion there: in `x_FOO_BAR FOO_BAR` the second, standalone `FOO_BAR` was coerced with the
    context `x_FOO_BAR` (snake_case by `coercion::detect_style`), rendered `baz_qux`, capitalised by the first-letter fix-up:
    `Baz_qux`.  Now the context is taken at the match's own column and the occurrence keeps its style. -/
theorem coercion_context_at_the_match_now :
    Gen.coercionContextAtColumn = true ∧
    rewriteLineReal (cfg0 {} b!"foo_bar" b!"baz_qux") b!"x_FOO_BAR FOO_BAR\n" = some b!"x_Baz_Qux BAZ_QUX\n" ∧
    contextPos b!"x_FOO_BAR FOO_BAR\n" 10 b!"FOO_BAR" = some 10 ∧
    immediateContext b!"x_FOO_BAR FOO_BAR\n" 10 17 = b!"FOO_BAR" ∧
    -- what the old lookup looked at
    findSub b!"x_FOO_BAR FOO_BAR\n" b!"FOO_BAR" = some 2 ∧
    immediateContext b!"x_FOO_BAR FOO_BAR\n" 2 9 = b!"x_FOO_BAR" ∧
    -- the refuting instance of `every_occurrence_full` is an instance of it now
    (∃ p', rewriteLineReal (cfg0 {} b!"foo_bar" b!"baz_qux") (b!"x_FOO_BAR" ++ b!" " ++ b!"FOO_BAR" ++ b!"\n") =
      some (p' ++ b!" " ++ b!"BAZ_QUX" ++ b!"\n")) :=
  have h : rewriteLineReal (cfg0 {} b!"foo_bar" b!"baz_qux") b!"x_FOO_BAR FOO_BAR\n" = some b!"x_Baz_Qux BAZ_QUX\n" := by
    decide +kernel
  ⟨by decide, h, by decide +kernel, by decide +kernel, by decide +kernel, by decide +kernel, b!"x_Baz_Qux", h⟩

/-  Clause 3 with the resolver's real context heuristics (Model/Resolver.lean, Lemmas/Resolver.lean): the last parameter of
    the one-line pipeline, `Env.heur`, instantiated with the model of levels 1–3 of `AmbiguityResolver::resolve_with_styles`
    (all twelve language modules parsed from the source, the file-context analyzer for every iteration order of its
    `HashMap`, the cross-file level that `project_root: None` switches off).  No `HeurOk` hypothesis is left. -/

/-- the environment of a match at byte column `pos` of `line` in the file `path` with `content`: real coercion decision, real
    compound pass, real context heuristics (`ord` = the iteration order of the analyzer's `HashMap`, arbitrary) -/
def envCtx (c : Cfg) (ord : List Style) (path content line : Bytes) (pos : Nat) : Env :=
  { envReal c with heur := Resolver.heurReal c.A ord path content line pos }

/-- every `return Some(Style::X)` of every language module (`languages/*.rs`, parsed into `Gen.languageRules` by
    translate/languagerules.py) sits below a condition with the conjunct `possible_styles.contains(&Style::X)` — checked by
    evaluation on the generated decision trees; `Resolver.Block.eval_mem` turns it into "answers only possible styles" -/
theorem language_rules_guarded : Resolver.RulesGuarded := by decide +kernel

/-- all twelve modules are there, under the names the extension table uses -/
theorem language_rules_complete :
    Gen.languageRules.map (·.1) = [b!"ruby", b!"python", b!"javascript", b!"go", b!"rust", b!"java", b!"c_cpp", b!"css",
      b!"html", b!"shell", b!"yaml", b!"config"] ∧
    Gen.languageExtensions.all (fun row => (Gen.languageRules.lookup row.2).isSome) = true := by decide +kernel

/-- `heurReal_ok`: whatever the language / file-context heuristics return, for whatever file, line, column and hash order,
    is a member of the list they are given -/
theorem heurReal_ok (A : Acr) (ord : List Style) (path content line : Bytes) (pos : Nat) :
    ∀ l s, Resolver.heurReal A ord path content line pos l = some s → s ∈ l :=
  Resolver.heurReal_ok language_rules_guarded A ord path content line pos

theorem envCtx_ok (c : Cfg) (ord : List Style) (path content line : Bytes) (pos : Nat) :
    (envCtx c ord path content line pos).HeurOk ∧ (envCtx c ord path content line pos).CoerceOk :=
  ⟨Resolver.heurReal_ok language_rules_guarded c.A ord path content line pos, LinePipeline.envReal_coerceOk c⟩

/-- what the source says about the cross-file level (translate/resolvershape.py): every `AmbiguityContext` the scanner and
    the path renamer build has `project_root: None`, `try_cross_file_context` starts with `context.project_root.as_ref()?`,
    and the levels are asked in the order language, file, cross, fallback -/
theorem cross_file_level_unreachable :
    Gen.projectRootAlwaysNone = true ∧ Gen.crossFileNeedsProjectRoot = true ∧
    Gen.resolverLevelOrder = [b!"language", b!"file", b!"cross", b!"fallback"] := by decide +kernel

/-- the two places that build an `AmbiguityContext` and the model's two contexts have the same shape: the scanner fills
    path, content, line and column, the path renamer nothing (read from the source) -/
theorem context_sites :
    Gen.ambiguityContextSites =
      [(b!"rename.rs", Resolver.pathCtx.shape), (b!"scanner.rs", (Resolver.hunkCtx [] [] [] 0).shape)] := by decide +kernel

/-- for a path component every level is silent: there the resolver IS its fallback chain (`heur := fun _ => none`, what the
    `resolve` correspondence runs), whatever the cross-file analyzer does -/
theorem path_component_context_silent (A : Acr) (ord : List Style)
    (cross : Bytes → Bytes → Bytes → List Style → Option Style) (matched repl : Bytes) (rp : List Style) :
    (Resolver.resolveWhy A ord cross Resolver.pathCtx matched repl rp).2 = resolve A (fun _ => none) matched repl rp := by
  rw [Resolver.resolveWhy_style, Resolver.heurCtx_pathCtx]

/-- the assumption of the one-line correspondence (`rewriteline`: a file `a.txt` of one line) as a theorem: no language
    module for the extension and fewer than 50 counted identifiers ⇒ the environment with the real heuristics is the
    environment `envReal` the composed theorems of clause 1 are about -/
theorem envCtx_eq_envReal {c : Cfg} (ord : List Style) {path content : Bytes} (line : Bytes) (pos : Nat)
    (hheur : c.env.heur = fun _ => none)
    (hext : (Resolver.extension path).bind Resolver.rulesOfExt = none)
    (hfew : (Resolver.styleTags c.A content).length < Resolver.minIdentifiers) :
    envCtx c ord path content line pos = envReal c := by
  simp only [envCtx, Resolver.heurReal_silent ord line pos hext hfew, envReal, hheur]

/-- non-vacuity: `a.txt` holding the line `see FOOBAR, fooBar and foo_bar here` -/
example : (Resolver.extension b!"a.txt").bind Resolver.rulesOfExt = none ∧
    (Resolver.styleTags A b!"see FOOBAR, fooBar and foo_bar here\n").length < Resolver.minIdentifiers ∧
    (cfg0 {} b!"foo_bar" b!"baz_qux").env.heur = (fun _ => none) := by
  refine ⟨by decide +kernel, by decide +kernel, rfl⟩

/-- … hence, on the contexts `generate_hunks` builds, `resolve_with_styles` is `LinePipeline.resolve` with
    `heur := heurReal …` WHATEVER the cross-file analyzer does (no contract asked of it) -/
theorem resolver_on_scanner_context (A : Acr) (ord : List Style)
    (cross : Bytes → Bytes → Bytes → List Style → Option Style) (path content line : Bytes) (pos : Nat)
    (matched repl : Bytes) (rp : List Style) :
    (Resolver.resolveWhy A ord cross (Resolver.hunkCtx path content line pos) matched repl rp).2 =
      resolve A (Resolver.heurReal A ord path content line pos) matched repl rp := by
  rw [Resolver.resolveWhy_style, Resolver.heurReal_eq_heurCtx]

/-- the style chosen for an ambiguous match under the real heuristics is compatible with the match -/
theorem ambiguous_choice_compatible_real {A : Acr} (ord : List Style) (path content line : Bytes) (pos : Nat)
    {matched : Bytes} (repl : Bytes) (rp : List Style) (hamb : isAmbiguous A matched Gen.allStyles = true) :
    resolve A (Resolver.heurReal A ord path content line pos) matched repl rp ∈ filterCompatible A matched Gen.allStyles :=
  resolve_mem repl rp hamb (Resolver.heurReal_ok language_rules_guarded A ord path content line pos)

/-- CLAUSE 3 with the real heuristics: the text the ambiguity branch of `generate_hunks` produces starts with an upper-case
    letter iff the match does — in every file, on every line, at every column, for every hash order -/
theorem ambiguous_keeps_case_real {c : Cfg} {ord : List Style} {path content line : Bytes} {pos : Nat} {vm : SMap}
    {repl r cs t : Bytes} {a d : UInt8} {ts : List Bytes}
    (hb : baseReplacement c.A (envCtx c ord path content line pos) vm (a :: cs) repl = some (.ambiguity, r))
    (ha : isAlpha a = true) (hp : parse c.A repl = (d :: t) :: ts) (hd : isAlpha d = true) :
    ∃ e r', r = e :: r' ∧ isUpper e = isUpper a :=
  ambiguous_keeps_case (envCtx_ok c ord path content line pos).1 hb ha hp hd

/-- … and an all-upper-case match (two leading capitals, not an acronym run) stays without lower-case letters -/
theorem ambiguous_keeps_all_upper_real {c : Cfg} {ord : List Style} {path content line : Bytes} {pos : Nat} {vm : SMap}
    {repl r cs : Bytes} {a a' : UInt8}
    (hb : baseReplacement c.A (envCtx c ord path content line pos) vm (a :: a' :: cs) repl = some (.ambiguity, r))
    (ha : isUpper a = true) (ha' : isUpper a' = true) (hcu : hasConsecutiveUpper c.A (a :: a' :: cs) = true) :
    hasLower r = false :=
  ambiguous_keeps_all_upper (envCtx_ok c ord path content line pos).1 hb ha ha' hcu

/-- non-vacuity, and the heuristics DO act: in `lib.rs` after `fn ` the occurrence `foo` of a term renamed to `bazQux` is
    written `baz_qux` (language level: Rust functions are snake_case) where the fallback chain alone writes `bazQux`;
    after `struct ` the language level has no possible style to offer and the fallback answers; `FOO` after `const ` becomes
    `BAZ_QUX`; in a Ruby file `class Foo` becomes `class BazQux` -/
example :
    baseReplacement A (envCtx (cfg0 {} b!"foo" b!"bazQux") [] b!"src/lib.rs" b!"fn foo() {}\n" b!"fn foo() {}\n" 3) []
      b!"foo" b!"bazQux" = some (.ambiguity, b!"baz_qux") ∧
    baseReplacement A env0 [] b!"foo" b!"bazQux" = some (.ambiguity, b!"bazQux") ∧
    baseReplacement A (envCtx (cfg0 {} b!"foo" b!"bazQux") [] b!"src/lib.rs" b!"struct foo;\n" b!"struct foo;\n" 7) []
      b!"foo" b!"bazQux" = some (.ambiguity, b!"bazQux") ∧
    baseReplacement A (envCtx (cfg0 {} b!"foo" b!"bazQux") [] b!"src/lib.rs" b!"const FOO: u8 = 1;\n" b!"const FOO: u8 = 1;\n" 6) []
      b!"FOO" b!"bazQux" = some (.ambiguity, b!"BAZ_QUX") ∧
    baseReplacement A (envCtx (cfg0 {} b!"foo" b!"baz_qux") [] b!"app/models/foo.rb" b!"class Foo\n" b!"class Foo\n" 6) []
      b!"Foo" b!"baz_qux" = some (.ambiguity, b!"BazQux") := by decide +kernel

/-- the language level on its own: extension lookup (`Path::extension`: last dot of the file name, dot files and names
    without a dot have none, case sensitive), `trim`, the branch order of a module (`trait ` anywhere wins over a trailing
    `fn`), the vacuous "all caps" test of the Python module on an empty context -/
example :
    Resolver.extension b!"a/b.d/mod.rs" = some b!"rs" ∧ Resolver.extension b!".bashrc" = none ∧
    Resolver.extension b!"dir.rs/Makefile" = none ∧ Resolver.extension b!"x.tar.gz" = some b!"gz" ∧
    Resolver.rulesOfExt b!"tsx" = some Gen.javascriptRules ∧ Resolver.rulesOfExt b!"RS" = none ∧
    Resolver.rulesOfExt b!"env" = some Gen.configRules ∧
    Resolver.langSuggest b!"m.rs" b!"  pub trait T { fn " [.snake, .pascal] = some .pascal ∧
    Resolver.langSuggest b!"m.rs" b!"\tpub fn " [.snake, .pascal] = some .snake ∧
    Resolver.langSuggest b!"m.rs" b!"pub fn " [.camel, .pascal] = none ∧
    Resolver.langSuggest b!"m.py" b!"" [.snake, .screamingSnake] = some .screamingSnake ∧
    Resolver.langSuggest b!"m.js" b!"const MAX_" [.camel, .screamingSnake] = some .screamingSnake ∧
    Resolver.langSuggest b!"m.css" b!".btn." [.snake] = none ∧
    Resolver.langSuggest b!"m.txt" b!"fn " [.snake] = none := by decide +kernel

/-- the identifier extractor of the file-context level: strings in the three kinds of quotes and `//` comments are skipped,
    numbers and one-letter names dropped, ambiguous single words not counted -/
example :
    Resolver.extractIdentifiers b!"let user_name = getUser(x, 42); // not_me\n\"nor_me\" MAX_SIZE 'a_b' `c_d` e-f" =
      [b!"let", b!"user_name", b!"getUser", b!"MAX_SIZE", b!"e-f"] ∧
    Resolver.styleTags A b!"let user_name = getUser(x, 42); // not_me\n\"nor_me\" MAX_SIZE 'a_b' `c_d` e-f" =
      [.snake, .camel, .screamingSnake, .kebab] := by decide +kernel

/-- FINDING (outside the text of C06: both answers keep the case), kernel-evaluated on the counts: with as many snake_case as
    camelCase identifiers in the file (`n` = the threshold each, so that both gates are passed), `FileContextAnalyzer::
    suggest_style` answers Camel or Snake for the ambiguous `foo` depending on the iteration order of its `HashMap<Style, usize>`
    (`RandomState`: different from map to map) — the same plan request renders `foo` as `bazQux` in one run and `baz_qux` in the
    next (corpus/C06/file_context_tie_hash_order.json).  `fileChoices` is the set of both. -/
theorem file_context_tie_depends_on_hash_order :
    let n := Resolver.minIdentifiers
    let tags := List.replicate n Style.snake ++ List.replicate n Style.camel
    let possible := [Style.snake, .kebab, .camel, .dot, .lowerFlat, .lowerSentence]
    Resolver.fileSuggestTags [.snake, .camel] tags possible = some .camel ∧
    Resolver.fileSuggestTags [.camel, .snake] tags possible = some .snake ∧
    Resolver.fileChoicesTags tags possible = [.snake, .camel] ∧
    -- one identifier more of either style and the order is irrelevant
    Resolver.fileChoicesTags (Style.snake :: tags) possible = [.snake] ∧
    -- a dominant style the match cannot be written in is passed over for the best possible one
    Resolver.fileChoicesTags (List.replicate (4 * n) Style.pascal ++ List.replicate 7 Style.kebab ++ List.replicate 9 Style.camel)
      possible = [.camel] := by decide +kernel

/-- REPAIRED (repo commit 40204b5; the flag is read from `file_context.rs`): the code no longer walks its `HashMap` but
    `Style::all_styles()`, i.e. the model's order parameter is the empty list (`keysOf [] tags` = the counted styles in
    canonical order) in EVERY run: the tie of the theorem above is resolved the same way every time (the last maximum in
    canonical order: camelCase), and the plan is a function of the tree again.  This was a C14 matter (determinism); it did not
    touch clause 3 of C06, both answers keep the case of the match. -/
theorem file_context_order_is_canonical_now :
    Gen.fileContextCanonicalOrder = true ∧
    (let n := Resolver.minIdentifiers
     let tags := List.replicate n Style.snake ++ List.replicate n Style.camel
     Resolver.fileSuggestTags [] tags [Style.snake, .kebab, .camel, .dot, .lowerFlat, .lowerSentence] = some .camel) := by
  decide +kernel

/-- the two gates of the file-context level, for whatever constants the source has: fewer counted identifiers than the
    threshold, or no style that reaches the medium-confidence ratio ⇒ the level is silent for every hash order -/
theorem file_context_gates (ord tags possible : List Style)
    (h : tags.length < Resolver.minIdentifiers ∨
      ∀ s, Resolver.mediumDen * tags.count s < Resolver.mediumNum * tags.length) :
    Resolver.fileSuggestTags ord tags possible = none := by
  cases hs : Resolver.fileSuggestTags ord tags possible with
  | none => rfl
  | some s =>
    have hm := Resolver.fileSuggestTags_mem_choices hs
    rw [Resolver.fileChoicesTags_of_gate possible h] at hm
    cases hm

/-- every answer of the file-context level, for every hash order, is among `fileChoices`; and whether the level answers at
    all does not depend on the order -/
theorem file_context_answers (A : Acr) (ord : List Style) (content : Bytes) (possible : List Style) :
    (∀ s, Resolver.fileSuggest A ord content possible = some s → s ∈ Resolver.fileChoices A content possible) ∧
    (Resolver.fileSuggest A ord content possible = none → Resolver.fileChoices A content possible = []) :=
  ⟨fun _ h => Resolver.fileSuggest_mem_choices h, Resolver.fileSuggest_none⟩


end C06
