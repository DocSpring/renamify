import RModel.Lemmas.Compound
import RModel.Props.C18
/-
  C07 — Only the term changes: match soundness and locality.

  Model: `RModel/Model/Compound.lean` — `find_compound_variants` (with the re-join guard of commit 70a22d6;
  `findCompoundOld` is the function before it), `IdentifierExtractor`, `is_boundary`, the exact pass
  and the overlap resolution of `find_enhanced_matches`, on top of the C18 tokenizer / renderer / detector.
  `Words` = lower-case words of length >= 2, `Neutral` = the C18 acronym-neutrality guard, `substAll pat rep 0 ws` =
  the word list `ws` with every (non-overlapping, left to right) occurrence of the word sequence `pat` replaced by `rep`.
-/
namespace C07
open B CaseModel Compound

def A : Acr := acrOf Gen.defaultAcronyms
theorem acrOk : AcrOk A := C18.acrOk_default
theorem acrStable : AcrStable A := C18.acrStable_default

theorem A_eq : A = C18.Aidx := C18.A_eq

/-- the sample term and words of the examples below, tokenised / checked once -/
theorem parse_foo_bar : parse A b!"foo_bar" = [b!"foo", b!"bar"] := by rw [A_eq]; decide +kernel
theorem parse_baz_qux : parse A b!"baz_qux" = [b!"baz", b!"qux"] := by rw [A_eq]; decide +kernel
theorem neutral_sample : Neutral A [b!"my", b!"foo", b!"bar", b!"item"] := by rw [A_eq]; decide +kernel

/-- the scanner's default style list (`Gen.scannerCompoundDefaultStyles`, read from `scanner.rs`) -/
def libStyles : List Style := [.snake, .kebab, .camel, .pascal, .screamingSnake, .train]

/-- the separator styles covered by the general locality theorem -/
def sepStyles : List Style := [.snake, .kebab, .screamingSnake, .train]

/-- Locality, word-list form.  An identifier that is `lead` (nothing, `_` or `__`) followed by the rendering of the word
    list `ws` in a separator style (single separator kind, single separators) or in PascalCase and that contains the search
    words `pat` (but is not just `pat`) is rewritten to `lead` + the same rendering of `ws` with the occurrences of `pat`
    replaced by the replacement words: every other word, the separators and the leading underscores are reproduced.
    Acronym neutrality matters only where the rendering has upper-case letters. -/
theorem compound_locality_words {A : Acr} (hA : AcrOk A) (hS : AcrStable A) {st : Style}
    (hst : st ∈ Style.pascal :: sepStyles) {lead : Bytes} (hlead : lead = [] ∨ lead = [95] ∨ lead = [95, 95])
    {ws pat rep : List Bytes} (hws : Words ws) (hN : st ∉ [Style.snake, .kebab] → Neutral A ws) (hpat : Words pat)
    (hrep : Words rep) (h2 : 2 ≤ pat.length) (hrne : rep ≠ []) (hne : ws ≠ pat) (hocc : 0 < occCount pat 0 ws)
    {old new : Bytes} (hold : parse A old = pat) (hnew : parse A new = rep)
    {styles : List Style} (hmem : st ∈ styles) :
    findCompound A (lead ++ toStyle A ws st) old new styles =
      some ⟨lead ++ toStyle A ws st, lead ++ toStyle A (substAll pat rep 0 ws) st, st⟩ := by
  have hl := hws.lowerWords
  have hrl := hrep.lowerWords
  have h2w : 2 ≤ ws.length := by have := occCount_le_length hocc; omega
  have hsub : LowerWords (substAll pat rep 0 ws) := fun x hx => (mem_substAll hx).elim (hl x) (hrl x)
  have hdet := detect_toStyle A h2w hws ((by decide : Style.pascal :: sepStyles ⊆ V12) hst)
  -- what remains to be said per style: separator, casing of the words, their tokens, the styling of the one window
  have regular := fun sep f hsep hsp hparse hf hdet hsty =>
    findCompound_regular A (sep := sep) (st := st) hsep hsp f hlead hparse hold hnew hl hf
      (fun p hp => lower_of_lower (hpat p hp).2) hdet hsty h2w (List.ne_nil_of_length_pos (by omega)) hrne hne hocc hmem
  cases st <;> first
    | exact absurd hst (by decide)
    | simp only [toStyle] at hdet ⊢
  case snake | kebab =>
    have hml := map_lower_lowerWords hl
    refine regular _ lower (by decide) nofun (by rw [hml]; exact parse_lower_sep hA (by decide) hl)
      (fun w hw => by rw [lower_of_lower (hl w hw).2, lower_of_lower (hl w hw).2]) hdet ?_
    rw [map_lower_lowerWords hpat.lowerWords, finalStyle_lower A hpat.lowerWords h2 hdet (by decide)]
    rfl
  case screamingSnake =>
    refine regular _ upper (by decide) nofun (parse_upper_sep hA hS (by decide) hl (fun w hw => (hN (by decide) w hw).1))
      (fun w hw => lower_upper_of_lower (hl w hw).2) hdet ?_
    rw [finalStyle_upper A hpat h2 hdet (by decide)]
    rfl
  case train =>
    -- the identifier is Train-Case, so is the replacement: the renderer's output split at the hyphens
    rw [map_capOrKeep_lowerWords hl] at hdet ⊢
    rw [map_capOrKeep_lowerWords hsub]
    refine regular _ capitalizeFirst (by decide) nofun (parse_cap_sep hA hS (by decide) hws (fun w hw => (hN (by decide) w hw).2))
      (fun w hw => lower_capitalizeFirst (hl w hw).2) hdet ?_
    simp only [finalStyle, hdet, beq_self_eq_true, if_true, styledTokens, toStyle, map_capOrKeep_lowerWords hrl]
    exact congrArg _ (splitOn_joinWith 45 _ (by simpa using hrne)
      (alpha_ne_sep (by decide) (alpha_capWords (caps_of_words hrep))))
  case pascal =>
    -- PascalCase is the rendering with the empty separator
    have hparse := parse_rendWords hA hS hws (hN (by decide)) (st := .pascal) (by decide)
    simp only [toStyle, map_capOrKeep_lowerWords hl, map_capOrKeep_lowerWords hsub, ← joinWith_nil] at hdet hparse ⊢
    refine regular [] capitalizeFirst (Or.inr (Or.inr rfl)) (fun _ => rfl) hparse (fun w hw => lower_capitalizeFirst (hl w hw).2)
      hdet ?_
    have hsp : contains (lead ++ joinWith [] (ws.map capitalizeFirst)) 32 = false := by
      have := contains_regular (Or.inr (Or.inr rfl)) (by rw [List.length_map]; exact h2w)
        (alpha_capWords (caps_of_words hws)) (c := 32) (by decide)
      rcases hlead with rfl | rfl | rfl <;> simpa [contains] using this
    rw [finalStyle_caps A (caps_of_words hpat) (by rw [List.length_map]; exact h2) hdet hsp]
    -- the styled replacement is the single token `humpJoin`
    show tailOf [] [humpJoin false 0 rep] = _
    rw [humpJoin_pascal rep 0 hrl, concat_eq_tailOf]
    simp only [tailOf, List.nil_append, List.append_nil]

/-- Locality, the shape of the property: identifier = lead + prefix words + TERM + suffix words in one separator style.
    Guards: single separator kind and single separators (by construction of `toStyle`), at most two leading
    underscores, at least one affix word, and the term occurs once (`OccursOnce`, decidable).  Then the compound
    replacement is lead + prefix words + REPLACEMENT + suffix words in the same style. -/
theorem compound_locality_partial {A : Acr} (hA : AcrOk A) (hS : AcrStable A) {st : Style} (hst : st ∈ sepStyles)
    {lead : Bytes} (hlead : lead = [] ∨ lead = [95] ∨ lead = [95, 95])
    {pre pat rep suf : List Bytes} (hpre : Words pre) (hsuf : Words suf) (hpat : Words pat) (hrep : Words rep)
    (hN : Neutral A (pre ++ pat ++ suf)) (h2 : 2 ≤ pat.length) (hrne : rep ≠ []) (haff : pre ++ suf ≠ [])
    (honce : OccursOnce pre pat suf)
    {old new : Bytes} (hold : parse A old = pat) (hnew : parse A new = rep)
    {styles : List Style} (hmem : st ∈ styles) :
    findCompound A (lead ++ toStyle A (pre ++ pat ++ suf) st) old new styles =
      some ⟨lead ++ toStyle A (pre ++ pat ++ suf) st, lead ++ toStyle A (pre ++ rep ++ suf) st, st⟩ := by
  obtain ⟨hne, hocc, hsub⟩ := honce.shape rep (List.ne_nil_of_length_pos (by omega)) haff
  have := compound_locality_words hA hS (List.mem_cons_of_mem _ hst) hlead ((hpre.append hpat).append hsuf) (fun _ => hN)
    hpat hrep h2 hrne hne hocc hold hnew hmem
  rwa [hsub] at this

/-- non-vacuity: `__my_foo_bar_item` with foo_bar -> baz_qux, and the theorem's prediction evaluated -/
example : findCompound A b!"__my_foo_bar_item" b!"foo_bar" b!"baz_qux" libStyles =
    some ⟨b!"__my_foo_bar_item", b!"__my_baz_qux_item", .snake⟩ :=
  compound_locality_partial acrOk acrStable (st := .snake) (by decide) (lead := b!"__") (by decide)
    (pre := [b!"my"]) (pat := [b!"foo", b!"bar"]) (rep := [b!"baz", b!"qux"]) (suf := [b!"item"])
    (by decide) (by decide) (by decide) (by decide) neutral_sample (by decide) (by decide) (by decide)
    ⟨by decide, by decide⟩ parse_foo_bar parse_baz_qux (by decide)

example : findCompound A b!"My-Foo-Bar" b!"foo_bar" b!"baz_qux" libStyles = some ⟨b!"My-Foo-Bar", b!"My-Baz-Qux", .train⟩ :=
  compound_locality_partial acrOk acrStable (st := .train) (by decide) (lead := []) (by decide)
    (pre := [b!"my"]) (pat := [b!"foo", b!"bar"]) (rep := [b!"baz", b!"qux"]) (suf := [])
    (by decide) (by decide) (by decide) (by decide) (fun w hw => neutral_sample w (List.mem_append_left _ hw))
    (by decide) (by decide) (by decide) ⟨by decide, by decide⟩ parse_foo_bar parse_baz_qux (by decide)

/-- PascalCase, shape form: lead + prefix words + TERM + suffix words -/
theorem compound_locality_pascal_partial {A : Acr} (hA : AcrOk A) (hS : AcrStable A)
    {lead : Bytes} (hlead : lead = [] ∨ lead = [95] ∨ lead = [95, 95])
    {pre pat rep suf : List Bytes} (hpre : Words pre) (hsuf : Words suf) (hpat : Words pat) (hrep : Words rep)
    (hN : Neutral A (pre ++ pat ++ suf)) (h2 : 2 ≤ pat.length) (hrne : rep ≠ []) (haff : pre ++ suf ≠ [])
    (honce : OccursOnce pre pat suf)
    {old new : Bytes} (hold : parse A old = pat) (hnew : parse A new = rep)
    {styles : List Style} (hmem : Style.pascal ∈ styles) :
    findCompound A (lead ++ toStyle A (pre ++ pat ++ suf) .pascal) old new styles =
      some ⟨lead ++ toStyle A (pre ++ pat ++ suf) .pascal, lead ++ toStyle A (pre ++ rep ++ suf) .pascal, .pascal⟩ := by
  obtain ⟨hne, hocc, hsub⟩ := honce.shape rep (List.ne_nil_of_length_pos (by omega)) haff
  have := compound_locality_words hA hS (List.mem_cons_self ..) hlead ((hpre.append hpat).append hsuf) (fun _ => hN)
    hpat hrep h2 hrne hne hocc hold hnew hmem
  rwa [hsub] at this

example : findCompound A b!"_MyFooBarItem" b!"foo_bar" b!"baz_qux" libStyles =
    some ⟨b!"_MyFooBarItem", b!"_MyBazQuxItem", .pascal⟩ :=
  compound_locality_pascal_partial acrOk acrStable (lead := b!"_") (by decide)
    (pre := [b!"my"]) (pat := [b!"foo", b!"bar"]) (rep := [b!"baz", b!"qux"]) (suf := [b!"item"])
    (by decide) (by decide) (by decide) (by decide) neutral_sample (by decide) (by decide) (by decide)
    ⟨by decide, by decide⟩ parse_foo_bar parse_baz_qux (by decide)

/-- camelCase (and PascalCase again), evaluated by the kernel on representative shapes (the general camelCase statement is
    not proved: its first word is rendered differently from the others): term at the
    start, in the middle, at the end, with leading underscores and with a three-word term -/
theorem compound_locality_hump_examples :
    findCompound A b!"myFooBarItem" b!"foo_bar" b!"baz_qux" libStyles = some ⟨b!"myFooBarItem", b!"myBazQuxItem", .camel⟩ ∧
    findCompound A b!"fooBarItem" b!"foo_bar" b!"baz_qux" libStyles = some ⟨b!"fooBarItem", b!"bazQuxItem", .camel⟩ ∧
    findCompound A b!"MyFooBar" b!"foo_bar" b!"baz_qux" libStyles = some ⟨b!"MyFooBar", b!"MyBazQux", .pascal⟩ ∧
    findCompound A b!"FooBarItemOld" b!"foo_bar" b!"lemon" libStyles = some ⟨b!"FooBarItemOld", b!"LemonItemOld", .pascal⟩ ∧
    findCompound A b!"__getMyFooBarBaz" b!"foo_bar_baz" b!"lemon_tiger" libStyles =
      some ⟨b!"__getMyFooBarBaz", b!"__getMyLemonTiger", .camel⟩ := by rw [A_eq]; decide +kernel

/-- Match soundness.  Every match returned by the line matcher either (exact path) is a hit of a variant of the term
    that satisfies `is_boundary`, or (compound path) is the answer of the compound matcher on some identifier whose
    token list contains the search tokens as a contiguous, case-insensitive window (or, for an identifier with two
    separator kinds, that starts with the search text as typed followed by a separator). -/
theorem match_soundness {A : Acr} {content search replace : Bytes} {variants : List Bytes} {styles : List Style} {m : M}
    (h : m ∈ findEnhanced A content search replace variants styles) :
    (∃ s e, (s, e) ∈ scanExact variants 0 0 content ∧ m.start = s ∧ m.stop = e ∧
        m.variant = (content.drop s).take (e - s) ∧
        isBoundary (content.take s) ((content.drop s).take (e - s)) (content.drop e) = true) ∨
    (∃ c, findCompound A m.variant search replace styles = some c ∧ m.text = c.replacement ∧
        (shortcutCond (extractPrefix m.variant).2 search = true ∨
         HasWindow (parse A (extractPrefix m.variant).2) (parse A search))) := by
  rcases findEnhancedG_origin h with hex | ⟨c, hc, ht⟩
  · exact Or.inl hex
  · exact Or.inr ⟨c, hc, ht, (findCompoundG_sound hc).2⟩

/-- non-vacuity: the line `let my_foo_bar = 1;` has exactly one match, through the compound path -/
example : findEnhanced A b!"let my_foo_bar = 1;" b!"foo_bar" b!"baz_qux" (variantKeys A b!"foo_bar" libStyles) libStyles =
    [⟨1, 4, 4, 14, b!"my_foo_bar", b!"my_baz_qux"⟩] := by rw [A_eq]; decide +kernel

/-- the "single word, single style" skip of the exact pass (commit 1fd3fe0): a camelCase / PascalCase term typed without
    separators is two words and goes through the exact pass even with one enabled style; a true single word still skips
    it (only compound matches are wanted then) -/
theorem single_style_hump_term_uses_exact_pass :
    findEnhanced A b!"foo_bar" b!"FooBar" b!"lemon_tiger" (variantKeys A b!"FooBar" [.snake]) [.snake] =
      [⟨1, 0, 0, 7, b!"foo_bar", b!"foo_bar"⟩] ∧
    findEnhanced A b!"foo" b!"foo" b!"lemon" (variantKeys A b!"foo" [.snake]) [.snake] = [] := by rw [A_eq]; decide +kernel

/-- an answer of the compound matcher implies a window of the search tokens in the identifier's tokens -/
theorem compound_soundness {A : Acr} {ident old new : Bytes} {styles : List Style} {c : CMatch}
    (h : findCompound A ident old new styles = some c) :
    c.full = ident ∧ (shortcutCond (extractPrefix ident).2 old = true ∨
      HasWindow (parse A (extractPrefix ident).2) (parse A old)) := findCompoundG_sound h

/-- Near miss, compound path.  An identifier made of lower-case words with one separator kind (`_` or `-`) whose word
    list does not contain the search words as a contiguous sublist gets no compound match: `xfoo_bar` = [xfoo, bar],
    `foo_barn` = [foo, barn], `afoo_barb`, `fo_o_bar` = [fo, o, bar] for the term [foo, bar]. -/
theorem near_miss_untouched {A : Acr} (hA : AcrOk A) {d : UInt8} (hd : d = 95 ∨ d = 45)
    {lead : Bytes} (hlead : lead = [] ∨ lead = [95] ∨ lead = [95, 95])
    {ws pat : List Bytes} (hws : LowerWords ws) (h2 : 2 ≤ ws.length) (hpat : LowerWords pat)
    (hno : ¬ pat <:+: ws) {old new : Bytes} (hold : parse A old = pat) (styles : List Style) :
    findCompound A (lead ++ joinWith [d] ws) old new styles = none := by
  have hsep : [d] = [95] ∨ [d] = [45] ∨ [d] = [] := by rcases hd with rfl | rfl <;> simp
  have ha := alpha_lowerWords hws
  obtain ⟨hx, _⟩ := regular_ends hlead [d] (List.ne_nil_of_two h2) ha (fun r hr => (hws r hr).1)
  cases hfc : findCompound A (lead ++ joinWith [d] ws) old new styles with
  | none => rfl
  | some c =>
    -- an answer would need the shortcut (two separator kinds) or a window of the search words
    rcases ((findCompoundG_eq_some_iff hx).mp hfc).2 with ⟨hs, _⟩ | ⟨_, _, _, _, _, hcnt, _⟩
    · rw [shortcutCond_oneSep hsep (fun _ => contains_regular hsep h2 ha)] at hs; cases hs
    · rw [parse_lower_sep hA (by rcases hd with rfl | rfl <;> decide) hws, hold] at hcnt
      obtain ⟨l, w, r, rfl, hm⟩ := spliceAll_count A _ _ _ _ _ 0 hcnt
      rw [tokensMatch_lower (fun x hx => lower_of_lower (hws x (by simp [hx])).2)
        (fun p hp => lower_of_lower (hpat p hp).2), decide_eq_true_eq] at hm
      exact absurd ⟨l, r, by rw [hm]⟩ hno

example : findCompound A b!"xfoo_bar" b!"foo_bar" b!"baz_qux" libStyles = none :=
  near_miss_untouched acrOk (d := 95) (Or.inl rfl) (lead := []) (by decide) (ws := [b!"xfoo", b!"bar"])
    (pat := [b!"foo", b!"bar"]) (by decide) (by decide) (by decide) (by decide) parse_foo_bar _

example : findCompound A b!"fo-o-bar-item" b!"foo_bar" b!"baz_qux" libStyles = none :=
  near_miss_untouched acrOk (d := 45) (Or.inr rfl) (lead := []) (by decide) (ws := [b!"fo", b!"o", b!"bar", b!"item"])
    (pat := [b!"foo", b!"bar"]) (by decide) (by decide) (by decide) (by decide) parse_foo_bar _

/-- Near miss, exact path, right side: a hit of a (space-free) variant that is directly followed by a lower-case letter
    or a digit (`foo_barn`, `fooBarn`, `foo_bar2`), or by an upper-case letter after an upper-case letter or digit
    (`FOO_BARN`), is rejected by `is_boundary` — whatever the surrounding text. -/
theorem near_miss_exact_right {before m after : Bytes} {c : UInt8} (hsp : contains m 32 = false) (hc : isAlnum c = true)
    (hcase : isUpper c = false ∨ ∃ l, m.getLast? = some l ∧ isLower l = false) :
    isBoundary before m (c :: after) = false := by
  unfold isBoundary
  simp only [hsp, hc, Bool.false_eq_true, if_false, Bool.not_true, Bool.false_or]
  rcases hcase with h | ⟨l, hl, hlo⟩
  · simp [h]
  · simp [hl, hlo]

/-- Near miss, exact path, left side: a hit directly preceded by an upper-case letter or a digit (`XfooBar`, `2foo_bar`),
    or by any letter when the hit starts lower-case (`xfoo_bar`, `xfooBar`), is rejected. -/
theorem near_miss_exact_left {before m after : Bytes} {p : UInt8} (hsp : contains m 32 = false) (hp : isAlnum p = true)
    (hcase : isLower p = false ∨ ∃ c cs, m = c :: cs ∧ isUpper c = false) :
    isBoundary (before ++ [p]) m after = false := by
  unfold isBoundary
  simp only [hsp, List.getLast?_append, List.getLast?_singleton, Option.some_or, hp, Bool.false_eq_true, if_false,
    Bool.not_true, Bool.false_or]
  rcases hcase with h | ⟨c, cs, rfl, hc⟩
  · simp [h]
  · simp [hc]

example : isBoundary b!"let " b!"foo_bar" b!"n = 1" = false :=
  near_miss_exact_right (by decide) (by decide) (Or.inl (by decide))
example : isBoundary b!"let x" b!"foo_bar" b!" = 1" = false :=
  near_miss_exact_left (before := b!"let ") (by decide) (by decide) (Or.inr ⟨_, _, rfl, by decide⟩)

/-- Digit-adjacent near miss, left side: a hit (of any space-free variant) directly preceded by a DIGIT is rejected by
    `is_boundary`, whatever the hit starts with and whatever surrounds it (`x2foo_bar`, `v10foo_bar_cache`, `load3fooBar`,
    `id7foo-bar`, `2foo_bar`).  `is_boundary` has no digit rule at all: the only alphanumeric neighbour it accepts is an
    upper-case letter after a lower-case one. -/
theorem near_miss_exact_digit_before {before m after : Bytes} {p : UInt8} (hsp : contains m 32 = false)
    (hp : isDigit p = true) : isBoundary (before ++ [p]) m after = false :=
  near_miss_exact_left hsp (by simp only [isAlnum, hp, Bool.or_true]) (Or.inl (digit_not_lower hp))

/-- Digit-adjacent near miss, right side: a hit whose last byte is a digit (term ending in a digit: `foo_v2`) directly
    followed by any letter or digit is rejected (`foo_v2x`, `fooV2n`, `FOO_V2N`); and a hit followed by a digit is rejected
    whatever it ends with (`foo_bar2`, `fooBar10`). -/
theorem near_miss_exact_digit_after {before m after : Bytes} {c : UInt8} (hsp : contains m 32 = false)
    (hc : isAlnum c = true) (h : isDigit c = true ∨ ∃ l, m.getLast? = some l ∧ isDigit l = true) :
    isBoundary before m (c :: after) = false :=
  near_miss_exact_right hsp hc (h.imp digit_not_upper (fun ⟨l, hl, hd⟩ => ⟨l, hl, digit_not_lower hd⟩))

example : isBoundary b!"x2" b!"foo_bar" b!" = 1" = false :=
  near_miss_exact_digit_before (before := b!"x") (by decide) (by decide)
example : isBoundary b!"let " b!"foo_v2" b!"x = 1" = false :=
  near_miss_exact_digit_after (by decide) (by decide) (Or.inr ⟨_, rfl, by decide⟩)

/-- the tokenizer's digit rules, by kernel evaluation (the general tokenizer lemmas of C18 cover letter-only words; words
    carrying digits are covered here by evaluation and by the differential check): digit->lower and letter->digit do not
    start a word, digit->UPPER does -/
theorem digit_word_rules :
    parse A b!"x2foo_bar" = [b!"x2foo", b!"bar"] ∧ parse A b!"load3fooBar" = [b!"load3foo", b!"Bar"] ∧
    parse A b!"foo_bar2x" = [b!"foo", b!"bar2x"] ∧ parse A b!"foo_v2x" = [b!"foo", b!"v2x"] ∧
    parse A b!"x2FooBar" = [b!"x2", b!"Foo", b!"Bar"] ∧ parse A b!"foo_v2X" = [b!"foo", b!"v2", b!"X"] := by rw [A_eq]; decide +kernel

/-- the whole line matcher on the digit-adjacent near misses (exact, compound and overlap passes together): no match;
    the last three use the term `foo_v2`, which ends in a digit -/
theorem near_miss_digit_family_untouched :
    (∀ t ∈ [b!"x2foo_bar", b!"v10foo_bar_cache", b!"load3fooBar", b!"id7foo-bar", b!"my_x2foo_bar_list", b!"2foo_bar",
            b!"foo_bar2x", b!"fooBar10", b!"my_foo_bar2_item", b!"let x2foo_bar = foo_bar2;"],
      findEnhanced A t b!"foo_bar" b!"baz_qux" (variantKeys A b!"foo_bar" libStyles) libStyles = []) ∧
    (∀ t ∈ [b!"foo_v2x", b!"fooV2n", b!"FOO_V2n", b!"my_foo_v2x_item"],
      findEnhanced A t b!"foo_v2" b!"baz_qux" (variantKeys A b!"foo_v2" libStyles) libStyles = []) := by rw [A_eq]; decide +kernel

/-- and digit->UPPER is a word start: these contain the word sequence and are rewritten locally -/
theorem digit_then_upper_is_a_word_start :
    findCompound A b!"myX2FooBar" b!"foo_bar" b!"baz_qux" libStyles = some ⟨b!"myX2FooBar", b!"myX2BazQux", .camel⟩ ∧
    findCompound A b!"arm64FooBar" b!"foo_bar" b!"baz_qux" libStyles = some ⟨b!"arm64FooBar", b!"arm64BazQux", .camel⟩ := by
  rw [A_eq]; decide +kernel

/-- the whole line matcher on the near-miss family of the property text (exact, compound and overlap passes together,
    scanner default styles): no match at all -/
theorem near_miss_family_untouched :
    ∀ t ∈ [b!"xfoo_bar", b!"foo_barn", b!"foobar", b!"afoo_barb", b!"FOO_BARN", b!"fooBarn", b!"XfooBar", b!"fo_o_bar",
           b!"foo_bar2", b!"Foobar", b!"FOOBAR", b!"my_xfoo_bar", b!"foo-barn-item", b!"let xfoo_bar = foo_barn;"],
      findEnhanced A t b!"foo_bar" b!"baz_qux" (variantKeys A b!"foo_bar" libStyles) libStyles = [] := by rw [A_eq]; decide +kernel

/-- Guard soundness.  Whenever the compound matcher answers (outside the mixed-separator shortcut), the token walk of
    `untouched_text_survives_rejoin` succeeded on the identifier: nothing in front of the first word, the join separator
    between any two neighbouring words that are not inside one matched window, at most one trailing delimiter. -/
theorem compound_answer_passed_guard {A : Acr} {ident old new : Bytes} {styles : List Style} {c : CMatch}
    (h : findCompound A ident old new styles = some c) (hs : shortcutCond (extractPrefix ident).2 old = false) :
    survivesRejoin (extractPrefix ident).2 (parse A (extractPrefix ident).2)
      (matchedWindows (parse A old) 0 0 (parse A (extractPrefix ident).2)) c.style = true := by
  rcases ((findCompoundG_eq_some_iff (pre := (extractPrefix ident).1) (rest := (extractPrefix ident).2) rfl).mp h).2
    with ⟨hs', _⟩ | ⟨_, _, _, _, _, _, _, _, _, hg, rfl⟩
  · rw [hs] at hs'; cases hs'
  · exact hg rfl

/-- Exact path locality.  A hit of the exact pass is, byte for byte, one of the variants of the term (a rendering of the
    search words in an enabled style) sitting at `start..end`; the planner replaces exactly that span, so the edit is
    the term's span and nothing else. -/
theorem exact_hit_is_a_variant {variants : List Bytes} {content : Bytes} {s e : Nat}
    (h : (s, e) ∈ scanExact variants 0 0 content) :
    ∃ v ∈ variants, v ≠ [] ∧ e = s + v.length ∧ (content.drop s).take (e - s) = v := by
  obtain ⟨v, hv, hne, _, he, hp⟩ := scanExact_sound content 0 0 s e h
  exact ⟨v, hv, hne, he, by rw [show e - s = v.length by omega]; exact hp⟩

/-- with the variant table of the term: the text of an exact match is the term rendered in one of the enabled styles -/
theorem exact_match_is_term_rendering {A : Acr} {content search replace : Bytes} {styles : List Style} {m : M}
    (h : m ∈ findEnhanced A content search replace (variantKeys A search styles) styles)
    (hex : m.text = m.variant) (hnc : ∀ c, findCompound A m.variant search replace styles = some c → c.replacement ≠ m.variant) :
    ∃ st ∈ styles, m.variant = toStyle A (parse A search) st ∧
      (content.drop m.start).take (m.stop - m.start) = m.variant := by
  rcases match_soundness h with ⟨s, e, hse, h1, h2, h3, _⟩ | ⟨c, hc, ht, _⟩
  · obtain ⟨v, hv, _, _, hslice⟩ := exact_hit_is_a_variant hse
    simp only [variantKeys, List.mem_map] at hv
    obtain ⟨st, hst, rfl⟩ := hv
    exact ⟨st, hst, by rw [h3, hslice], by rw [h1, h2, h3]⟩
  · exact absurd (by rw [← ht, hex]) (hnc c hc)

/-- formerly finding `doubled_separator_collapsed` (fixed by 70a22d6): for `my__foo_bar_x` the compound matcher now stays
    silent and the exact pass marks exactly the term's span 8..15 of `let my__foo_bar_x = 1;` -/
theorem doubled_separator_in_place :
    findCompound A b!"my__foo_bar_x" b!"foo_bar" b!"baz_qux" libStyles = none ∧
    findEnhanced A b!"let my__foo_bar_x = 1;" b!"foo_bar" b!"baz_qux" (variantKeys A b!"foo_bar" libStyles) libStyles =
      [⟨1, 8, 8, 15, b!"foo_bar", b!"foo_bar"⟩] ∧
    findCompound A b!"my_foo_bar__" b!"foo_bar" b!"baz_qux" libStyles = none ∧
    findEnhanced A b!"my_foo_bar__" b!"foo_bar" b!"baz_qux" (variantKeys A b!"foo_bar" libStyles) libStyles =
      [⟨1, 3, 3, 10, b!"foo_bar", b!"foo_bar"⟩] := by rw [A_eq]; decide +kernel

/-- THE TERM TWICE IN ONE IDENTIFIER (seeds C07e / C07f recorded the matched windows in the coordinates of the token list
    AFTER earlier splices; with a replacement of another word count the window of the second occurrence shifted, the re-join
    guard looked at the wrong gap and a doubled separator was collapsed).  With the windows in the coordinates of the ORIGINAL
    tokens: a doubled separator before or after the second occurrence makes the compound matcher stay silent, and the exact
    pass marks exactly the two spans; with single separators throughout it answers, and both occurrences are replaced. -/
theorem twice_in_one_identifier_in_place :
    findCompound A b!"foo_bar_x__foo_bar" b!"foo_bar" b!"baz" libStyles = none ∧
    (findEnhanced A b!"foo_bar_x__foo_bar" b!"foo_bar" b!"baz" (variantKeys A b!"foo_bar" libStyles) libStyles).map
      (fun m => (m.start, m.stop, m.variant)) = [(0, 7, b!"foo_bar"), (11, 18, b!"foo_bar")] ∧
    findCompound A b!"foo_bar_x_foo_bar__y" b!"foo_bar" b!"alpha_beta_gamma" libStyles = none ∧
    (findEnhanced A b!"foo_bar_x_foo_bar__y" b!"foo_bar" b!"alpha_beta_gamma" (variantKeys A b!"foo_bar" libStyles)
      libStyles).map (fun m => (m.start, m.stop, m.variant)) = [(0, 7, b!"foo_bar"), (10, 17, b!"foo_bar")] ∧
    findCompound A b!"foo_bar_x_foo_bar_y" b!"foo_bar" b!"baz" libStyles =
      some ⟨b!"foo_bar_x_foo_bar_y", b!"baz_x_baz_y", .snake⟩ := by rw [A_eq]; decide +kernel

/-- formerly finding `leading_underscores_lost` -/
theorem leading_underscores_in_place :
    findCompound A b!"___foo_bar_x" b!"foo_bar" b!"baz_qux" libStyles = none ∧
    findEnhanced A b!"___foo_bar_x" b!"foo_bar" b!"baz_qux" (variantKeys A b!"foo_bar" libStyles) libStyles =
      [⟨1, 3, 3, 10, b!"foo_bar", b!"foo_bar"⟩] := by rw [A_eq]; decide +kernel

/-- formerly finding `hump_identifier_with_underscore_rejoined` -/
theorem hump_underscore_in_place :
    findCompound A b!"myFooBar_" b!"foo_bar" b!"baz_qux" libStyles = none ∧
    findEnhanced A b!"myFooBar_" b!"foo_bar" b!"baz_qux" (variantKeys A b!"foo_bar" libStyles) libStyles =
      [⟨1, 2, 2, 8, b!"FooBar", b!"FooBar"⟩] := by rw [A_eq]; decide +kernel

/-- the guard does not reject what the pinned tests rely on: a window covering all hump words of a hyphenated identifier,
    a doubled separator INSIDE the term's span, and identifiers mixing `_` and `-` -/
theorem guard_keeps_pinned_behaviour :
    findCompound A b!"FooBarBazQux-config" b!"foo_bar_baz_qux" b!"alpha_beta" libStyles =
      some ⟨b!"FooBarBazQux-config", b!"AlphaBeta-config", .kebab⟩ ∧
    findCompound A b!"my_foo__bar_x" b!"foo_bar" b!"baz_qux" libStyles =
      some ⟨b!"my_foo__bar_x", b!"my_baz_qux_x", .snake⟩ := by rw [A_eq]; decide +kernel

/-- before the fix (the same function without the guard): the three defects, kept as regression anchors -/
theorem C07_before_fix_witnesses :
    findCompoundOld A b!"my__foo_bar_x" b!"foo_bar" b!"baz_qux" libStyles = some ⟨b!"my__foo_bar_x", b!"my_baz_qux_x", .snake⟩ ∧
    findCompoundOld A b!"my_foo_bar__" b!"foo_bar" b!"baz_qux" libStyles = some ⟨b!"my_foo_bar__", b!"my_baz_qux_", .snake⟩ ∧
    findCompoundOld A b!"___foo_bar_x" b!"foo_bar" b!"baz_qux" libStyles = some ⟨b!"___foo_bar_x", b!"__baz_qux_x", .snake⟩ ∧
    findCompoundOld A b!"myFooBar_" b!"foo_bar" b!"baz_qux" libStyles = some ⟨b!"myFooBar_", b!"my_BazQux_", .snake⟩ := by
  rw [A_eq]; decide +kernel

/-- whichever shape the dot splitting has, a recorded segment is as long as its span; with the trimming shape no segment
    starts with a hyphen -/
theorem splitDots_spans {trim : Bool} : ∀ (parts : List Bytes) (pos : Nat) {s e : Nat} {t : Bytes},
    (s, e, t) ∈ splitDots trim pos parts → e = s + t.length ∧ pos ≤ s ∧ t ≠ [] ∧ (trim = true → t.head? ≠ some 45)
  | [], _, _, _, _, h => by simp [splitDots] at h
  | p :: ps, pos, s, e, t, h => by
    rw [splitDots] at h
    simp only [List.mem_append] at h
    rcases h with h | h
    · by_cases hne : (if trim = true then p.dropWhile (· == 45) else p).isEmpty = true
      · simp only [hne, if_true, List.not_mem_nil] at h
      · simp only [hne, Bool.false_eq_true, if_false, List.mem_singleton, Prod.mk.injEq] at h
        obtain ⟨rfl, rfl, rfl⟩ := h
        refine ⟨rfl, by omega, by simpa using hne, ?_⟩
        intro ht
        subst ht
        simp only [if_true]
        exact dropWhile_hyphen_head p
    · obtain ⟨h1, h2, h3, h4⟩ := splitDots_spans ps (pos + p.length + 1) h
      exact ⟨h1, by omega, h3, h4⟩

/-- finding `dot_segment_leading_hyphen_rejoined`, on the extractor shape of the pinned tree (parts pushed as they are): the
    part `-foo_bar_wide` of `cfg.-foo_bar_wide` is one identifier, mixes '-' and '_', and is re-joined with '-' -/
theorem C07_witness_dot_segment_leading_hyphen :
    findAllG false libStyles b!"x = cfg.-foo_bar_wide;" = [(0, 1, b!"x"), (4, 7, b!"cfg"), (8, 21, b!"-foo_bar_wide")] ∧
    findEnhancedG false A b!"x = cfg.-foo_bar_wide;" b!"foo_bar" b!"qux_zed" (variantKeys A b!"foo_bar" libStyles) libStyles =
      [⟨1, 8, 8, 21, b!"-foo_bar_wide", b!"qux-zed-wide"⟩] := by rw [A_eq]; decide +kernel

/-- the same inputs on the shape of the proposed repair (leading hyphens trimmed, start moved with them): the identifier is
    `foo_bar_wide` at 9..21 and the edit is local; on a hyphen-only segment both shapes edit locally (the trimmed one through the compound
    matcher, the untrimmed one through the exact pass) -/
theorem dot_segment_leading_hyphen_in_place :
    findAllG true libStyles b!"x = cfg.-foo_bar_wide;" = [(0, 1, b!"x"), (4, 7, b!"cfg"), (9, 21, b!"foo_bar_wide")] ∧
    findEnhancedG true A b!"x = cfg.-foo_bar_wide;" b!"foo_bar" b!"qux_zed" (variantKeys A b!"foo_bar" libStyles) libStyles =
      [⟨1, 9, 9, 21, b!"foo_bar_wide", b!"qux_zed_wide"⟩] ∧
    findEnhancedG true A b!".search-form.-foo-bar-wide {}" b!"foo_bar" b!"qux_zed" (variantKeys A b!"foo_bar" libStyles) libStyles =
      [⟨1, 14, 14, 26, b!"foo-bar-wide", b!"qux-zed-wide"⟩] ∧
    findEnhancedG false A b!".search-form.-foo-bar-wide {}" b!"foo_bar" b!"qux_zed" (variantKeys A b!"foo_bar" libStyles) libStyles =
      [⟨1, 14, 14, 21, b!"foo-bar", b!"foo-bar"⟩] := by
  rw [A_eq]; decide +kernel

/-- snake-case identifier with `n1` underscores between prefix words and term and `n2` between term and suffix words -/
def snakeIdent (lead : Bytes) (pre mid suf : List Bytes) (n1 n2 : Nat) : Bytes :=
  lead ++ (joinWith [95] pre ++ List.replicate n1 95 ++ joinWith [95] mid ++ List.replicate n2 95 ++ joinWith [95] suf)

theorem snakeIdent_eq (lead : Bytes) (pre mid suf : List Bytes) (n1 n2 : Nat) :
    snakeIdent lead pre mid suf n1 n2 = lead ++ threeBlocks pre mid suf n1 n2 := rfl

/-- Full strength for the snake family: whatever the number of underscores between prefix words, term and suffix words,
    an answer of the compound matcher reproduces everything outside the term byte for byte. -/
def C07_full : Prop :=
  ∀ (lead : Bytes) (pre pat rep suf : List Bytes) (n1 n2 : Nat) (c : CMatch),
    (lead = [] ∨ lead = [95] ∨ lead = [95, 95]) →
    Words pre → Words pat → Words rep → Words suf → pre ≠ [] → suf ≠ [] → 2 ≤ pat.length → rep ≠ [] →
    Neutral A (pre ++ pat ++ suf) → OccursOnce pre pat suf → 1 ≤ n1 → 1 ≤ n2 →
    findCompound A (snakeIdent lead pre pat suf n1 n2) (joinWith [95] pat) (joinWith [95] rep) libStyles = some c →
    c.replacement = snakeIdent lead pre rep suf n1 n2

/-- Irregular multiplicities are left to the exact matcher: with more than one underscore between the prefix words and
    the term or between the term and the suffix words, the compound matcher produces nothing (the exact pass then marks
    the term's own span, see `exact_hit_is_a_variant` and `doubled_separator_in_place`). -/
theorem snake_irregular_none {lead : Bytes} {pre pat suf : List Bytes} {n1 n2 : Nat} {new : Bytes}
    (hlead : lead = [] ∨ lead = [95] ∨ lead = [95, 95])
    (hpre : Words pre) (hpat : Words pat) (hsuf : Words suf) (hpne : pre ≠ []) (hsne : suf ≠ []) (h2 : 2 ≤ pat.length)
    (honce : OccursOnce pre pat suf) (h1 : 1 ≤ n1) (h2' : 1 ≤ n2) (h11 : ¬ (n1 = 1 ∧ n2 = 1)) :
    findCompound A (snakeIdent lead pre pat suf n1 n2) (joinWith [95] pat) new libStyles = none := by
  have hpatne : pat ≠ [] := List.ne_nil_of_length_pos (by omega)
  have hl := ((hpre.append hpat).append hsuf).lowerWords
  cases hfc : findCompound A (snakeIdent lead pre pat suf n1 n2) (joinWith [95] pat) new libStyles with
  | none => rfl
  | some c =>
    -- an answer passed the re-join guard: the token walk over the three blocks, with the term as the one window
    have hex := extractPrefix_threeBlocks hlead hpne hpre.lowerWords pat suf n1 n2
    have hflag := fun c hc => contains_threeBlocks (c := c) hc (alpha_lowerWords hl) h1 n2
    have hg := compound_answer_passed_guard hfc (by rw [snakeIdent_eq, hex]; exact shortcutCond_oneSep (Or.inl rfl) hflag _)
    rw [snakeIdent_eq, hex, parse_threeBlocks hpne hpatne (fun r hr => good_lower acrOk (hl r hr).1 (hl r hr).2) h1 h2',
      parse_lower_sep acrOk (by decide) hpat.lowerWords, survivesRejoin_oneSep (Or.inl rfl) hflag nofun,
      matchedWindows_once hpatne pre suf 0 (fun w hw => lower_of_lower (hl w hw).2) honce,
      gapsOk_threeBlocks _ hpne hpatne hsne (fun t ht => ⟨(hl t ht).1, fun c hc => lower_alnum ((hl t ht).2 c hc)⟩)] at hg
    simp only [insideWindow, List.any_cons, List.any_nil, Nat.zero_add, Nat.lt_irrefl, decide_false, Bool.false_and,
      Bool.and_false, Bool.or_false, Bool.false_or, Bool.and_eq_true, beq_iff_eq] at hg
    exact absurd hg h11

theorem C07_full_holds : C07_full := by
  intro lead pre pat rep suf n1 n2 c hlead hpre hpat hrep hsuf hpne hsne h2 hrne hN honce h1 h2' hfc
  by_cases h11 : n1 = 1 ∧ n2 = 1
  · obtain ⟨rfl, rfl⟩ := h11
    -- single separators: the identifier is the snake_case rendering and locality applies
    have e : ∀ mid : List Bytes, mid ≠ [] → Words mid →
        snakeIdent lead pre mid suf 1 1 = lead ++ toStyle A (pre ++ mid ++ suf) .snake := by
      intro mid hm hw
      rw [show toStyle A (pre ++ mid ++ suf) .snake = joinWith [95] ((pre ++ mid ++ suf).map lower) from rfl,
        map_lower_lowerWords ((hpre.append hw).append hsuf).lowerWords, snakeIdent,
        joinWith_append 95 (by simp [hpne]) hsne, joinWith_append 95 hpne hm]
      rfl
    have hloc := compound_locality_partial acrOk acrStable (st := .snake) (by decide) hlead hpre hsuf hpat hrep hN h2
      hrne (by simp [hpne]) honce (parse_lower_sep acrOk (d := 95) (by decide) hpat.lowerWords)
      (parse_lower_sep acrOk (d := 95) (by decide) hrep.lowerWords) (styles := libStyles) (by decide)
    rw [e pat (List.ne_nil_of_length_pos (by omega)) hpat, hloc] at hfc
    cases hfc
    exact (e rep hrne hrep).symm
  · rw [snake_irregular_none hlead hpre hpat hsuf hpne hsne h2 honce h1 h2' h11] at hfc
    cases hfc

/-- non-vacuity of `C07_full_holds` (regular case, the matcher answers) and of `snake_irregular_none` -/
example : findCompound A (snakeIdent b!"_" [b!"my"] [b!"foo", b!"bar"] [b!"item"] 1 1) b!"foo_bar" b!"baz_qux" libStyles =
    some ⟨b!"_my_foo_bar_item", b!"_my_baz_qux_item", .snake⟩ := by rw [A_eq]; decide +kernel
example : findCompound A b!"my___foo_bar__item" b!"foo_bar" b!"baz_qux" libStyles = none :=
  snake_irregular_none (lead := []) (pre := [b!"my"]) (pat := [b!"foo", b!"bar"]) (suf := [b!"item"]) (n1 := 3) (n2 := 2)
    (by decide) (by decide) (by decide) (by decide) (by decide) (by decide) (by decide) ⟨by decide, by decide⟩
    (by decide) (by decide) (by decide)

/-- the guards of `compound_locality_partial` seen from outside: a single trailing separator is still restored, and a
    digit word keeps its place -/
theorem trailing_single_and_digits_preserved :
    findCompound A b!"my_foo_bar_" b!"foo_bar" b!"baz_qux" libStyles = some ⟨b!"my_foo_bar_", b!"my_baz_qux_", .snake⟩ ∧
    findCompound A b!"v2_foo_bar_2" b!"foo_bar" b!"baz_qux" libStyles = some ⟨b!"v2_foo_bar_2", b!"v2_baz_qux_2", .snake⟩ ∧
    findCompound A b!"foo_bar2" b!"foo_bar" b!"baz_qux" libStyles = none := by rw [A_eq]; decide +kernel

end C07
