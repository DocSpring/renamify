import RModel.Model.Scan
import RModel.Gen.ScanShape
import RModel.Lemmas.SortPerm
import RModel.Lemmas.Scan
/-
  C14 — Planning and previewing are read-only and deterministic.

  Determinism (Part A of `Model/Scan.lean`): the plan's match list is the same for every order in which the walker or the
  worker threads deliver the files, provided the order on files is a total order (`FileOrder`, the contract of
  `PathBuf::cmp`) and the sort key (file, line, byte_offset) identifies a hunk (`KeyInjective`; C03's `sort_key_unique`
  discharges it for the real per-file planner).  The comparator of the rename list (`plan.paths`) is total but NOT
  antisymmetric, so that list is determined only together with its input order.

  Read-only (Part B; the programs are generated from the gate table `Gen/DryRunGates.lean`): every writing statement sits
  behind its dry-run gate, no command writes a path of the user's tree, and a dry run leaves the whole tree identical
  except for the one-time ignore-file addition.
-/

namespace C14
open Scan SortPerm

variable {F : Type} [DecidableEq F]

/-- **The plan does not depend on the order in which files are scanned.**  For every permutation `files'` of
    `files` (any walker order, any assignment to worker threads, any completion order) the sorted match list is
    the same list. -/
theorem order_independent {fle : F → F → Bool} (ord : FileOrder fle) (scanFile : F → List (Hunk F))
    (files files' : List F) (hp : files'.Perm files) (hk : KeyInjective (allHunks scanFile files)) :
    scanRepository fle scanFile files' = scanRepository fle scanFile files := by
  unfold scanRepository
  apply sortBy_perm_invariant (hunkLe_preorder ord)
  · exact hp.flatMap_right scanFile
  · intro a b ha hb hab hba
    obtain ⟨h1, h2, h3⟩ := hunkLe_antisymm_key ord a b hab hba
    exact hk a ha b hb h1 h2 h3

/-- the result is sorted by the key and is a permutation of all hunks found -/
theorem scan_sorted_perm {fle : F → F → Bool} (ord : FileOrder fle) (scanFile : F → List (Hunk F)) (files : List F) :
    (scanRepository fle scanFile files).Pairwise (fun a b => hunkLe fle a b = true) ∧
    (scanRepository fle scanFile files).Perm (allHunks scanFile files) :=
  ⟨sortBy_sorted (hunkLe_preorder ord) _, sortBy_perm _ _⟩

omit [DecidableEq F] in
/-- `files_scanned`, `total_matches`, `files_with_matches` do not depend on the file order -/
theorem stats_order_independent (scanned : F → Bool) (scanFile : F → List (Hunk F)) (files files' : List F)
    (hp : files'.Perm files) : stats scanned scanFile files' = stats scanned scanFile files := by
  unfold stats
  rw [hp.countP_eq, hp.countP_eq, (hp.map _).sum_nat]

omit [DecidableEq F] in
/-- every entry of `matches_by_variant` is independent of the file order (the map is compared as a map) -/
theorem matches_by_variant_order_independent (scanFile : F → List (Hunk F)) (files files' : List F)
    (hp : files'.Perm files) (v : Nat) :
    matchesByVariant scanFile files' v = matchesByVariant scanFile files v := by
  unfold matchesByVariant
  exact (hp.map _).sum_nat

/-- `stats.total_matches` is the length of the match list -/
theorem total_matches_is_length {fle : F → F → Bool} (scanned : F → Bool) (scanFile : F → List (Hunk F)) (files : List F) :
    (stats scanned scanFile files).totalMatches = (scanRepository fle scanFile files).length := by
  unfold stats scanRepository allHunks
  rw [(sortBy_perm _ _).length_eq, List.length_flatMap]

/-- The shape the model assumes, read from scanner.rs on every run: the global sort is the stable `sort_by` on
    (file, line, byte_offset) — the key of `hunkLe` — and the per-file outcomes are collected in input order
    (`par_iter().map().collect()` into a Vec, no `for_each` / Mutex / channel sink). -/
theorem scan_shape :
    Gen.ScanShape.sortKey = [.file, .line, .byteOffset] ∧ Gen.ScanShape.sortIsStable = true ∧
    Gen.ScanShape.collectIsOrdered = true ∧ Gen.ScanShape.unorderedSinks = 0 ∧ Gen.ScanShape.perFilePresort = true := by
  decide

/-- How `plan.paths` is put together, read from rename.rs / scanner.rs on every run: stable per-root sort whose
    comparator ties on equal-depth directories and orders files by path, per-root lists appended in root order,
    de-duplication by an order-preserving `retain`, and NO pass of the list through a hash container (which would hand
    the tied directories to the sort in per-process hash order). -/
theorem rename_list_shape :
    Gen.ScanShape.renameSortIsStable = true ∧ Gen.ScanShape.renameOrderTiesOnEqualDepthDirs = true ∧
    Gen.ScanShape.renameFilesByPath = true ∧ Gen.ScanShape.renamesConcatInRootOrder = true ∧
    Gen.ScanShape.renameDedupIsRetain = true ∧ Gen.ScanShape.renameListHashOrderedPasses = 0 := by decide

/-- the planner's order on renames is NOT a total order: two different directories of equal depth are `≤` each
    other — so, unlike the match list, the sorted rename list is determined only together with the order of its input -/
theorem rename_order_ties :
    ∃ a b : RenameItem, a ≠ b ∧ renLe a b = true ∧ renLe b a = true :=
  ⟨⟨true, 2, 0⟩, ⟨true, 2, 1⟩, by decide, by decide, by decide⟩

/-- … and it does depend on it: the same two renames in the other input order come out in the other order (what an
    unordered container between walk and sort would do from one process to the next) -/
theorem rename_sort_depends_on_input_order :
    sortBy renLe [⟨true, 2, 0⟩, ⟨true, 2, 1⟩] ≠ sortBy renLe [⟨true, 2, 1⟩, ⟨true, 2, 0⟩] := by decide +kernel

/-- **Ties keep walk order.**  For every input list and every depth `d`, the directories of depth `d` appear in the
    sorted list in exactly the order in which the walker delivered them (the sort is stable). -/
theorem rename_ties_keep_walk_order (l : List RenameItem) (d : Nat) :
    (sortBy renLe l).filter (fun r => r.isDir && r.depth == d) = l.filter (fun r => r.isDir && r.depth == d) := by
  apply sortBy_filter_class
  intro a b ha hb
  simp only [Bool.and_eq_true, beq_iff_eq] at ha hb
  simp [renLe, ha.1, hb.1, ha.2, hb.2]

/-- files, whose comparator is total (by path), come out sorted whatever the input order: for them the order is
    independent of the walk -/
theorem rename_files_sorted (l : List RenameItem) :
    ((sortBy renLe l).filter (fun r => !r.isDir)).Pairwise (fun a b => a.path ≤ b.path) := by
  refine ((sortBy_sorted renLe_preorder l).filter _).imp_of_mem ?_
  intro a b ha hb hab
  simp only [List.mem_filter, Bool.not_eq_true'] at ha hb
  simpa [renLe, ha.2, hb.2] using hab

/-- the de-duplication across roots never reorders: `plan.paths` is a sublist of the concatenation of the sorted
    per-root lists, so it is a function of the roots' order and each root's walk order and nothing else -/
theorem rename_dedup_keeps_order (perRootWalk : List (List RenameItem)) :
    (planRenames perRootWalk).Sublist ((perRootWalk.map (sortBy renLe)).flatten) :=
  dedupAux_sublist _ [] _

example : planRenames [[⟨false, 2, 7⟩, ⟨true, 1, 3⟩, ⟨true, 1, 2⟩], [⟨true, 1, 2⟩, ⟨true, 2, 9⟩]] =
    [⟨true, 1, 3⟩, ⟨true, 1, 2⟩, ⟨false, 2, 7⟩, ⟨true, 2, 9⟩] := by decide +kernel

theorem natOrder : FileOrder (fun a b : Nat => decide (a ≤ b)) :=
  ⟨fun a b => (Nat.le_total a b).imp decide_eq_true decide_eq_true,
   fun _ _ _ hab hbc => decide_eq_true (Nat.le_trans (of_decide_eq_true hab) (of_decide_eq_true hbc)),
   fun _ _ hab hba => Nat.le_antisymm (of_decide_eq_true hab) (of_decide_eq_true hba)⟩

def demoScan : Nat → List (Hunk Nat)
  | 0 => [⟨0, 3, 4, 1, 0⟩, ⟨0, 1, 7, 0, 0⟩, ⟨0, 1, 2, 1, 0⟩]
  | 1 => []
  | 2 => [⟨2, 1, 0, 0, 5⟩]
  | n => [⟨n, 9, 9, 2, 0⟩]

example : scanRepository (fun a b => decide (a ≤ b)) demoScan [2, 0, 1] =
    scanRepository (fun a b => decide (a ≤ b)) demoScan [0, 1, 2] := by decide +kernel

example : (scanRepository (fun a b => decide (a ≤ b)) demoScan [2, 0, 1]).map (fun h => (h.file, h.line, h.byteOffset)) =
    [(0, 1, 2), (0, 1, 7), (0, 3, 4), (2, 1, 0)] := by decide +kernel

/-- non-vacuity of `order_independent`: its two hypotheses hold for the demo scanner on [0,1,2], `natOrder` and this -/
example : KeyInjective (allHunks demoScan [0, 1, 2]) := by
  unfold KeyInjective
  decide +kernel

/-- without key injectivity the conclusion can fail: two different hunks with one key keep their input order -/
theorem key_injectivity_needed :
    let sf : Nat → List (Hunk Nat) := fun n => [⟨0, 1, 1, 0, n⟩]
    scanRepository (fun a b => decide (a ≤ b)) sf [1, 2] ≠ scanRepository (fun a b => decide (a ≤ b)) sf [2, 1] := by
  decide +kernel

/-- Every writing statement the translator found, in every operation, sits behind its dry-run gate (a write that moves
    in front of its gate, or a new ungated one, breaks this line). -/
theorem all_writes_gated : ∀ g ∈ Gen.DryRunGates.gates, g.skippedByDryRun = true := by decide

/-- … so under such a table nothing runs when the effective dry-run flag is set -/
theorem runsKG_dry {gs : List Gen.DryRunGates.Gate} (hgs : ∀ g ∈ gs, g.skippedByDryRun = true) {cmd : Cmd} {d : Bool}
    (hd : effDry cmd d = true) (k : Gen.DryRunGates.Kind) : runsKG gs cmd d k = false := by
  unfold runsKG
  rw [List.any_eq_false]
  intro g hg
  simp [hgs g hg, hd]

/-- plan_operation: every writing statement is skipped by a dry run -/
theorem plan_dry_run_gates : ∀ k, runsK .plan true k = false := runsKG_dry all_writes_gated rfl

/-- `search` is `plan` with dry_run = true, whatever flag is passed -/
theorem search_is_dry_run : ∀ d k, runsK .search d k = false := fun _ => runsKG_dry all_writes_gated rfl

/-- handle_replace: a dry run skips every writing statement — the lock (taken since 451dd24) included; it never writes
    a plan file -/
theorem replace_dry_run_gates : (∀ k, runsK .replace true k = false) ∧ (∀ d, runsK .replace d .planWrite = false) ∧
    runsK .replace false .lock = true :=
  ⟨runsKG_dry all_writes_gated rfl, fun _ => rfl, rfl⟩

/-- the lock file is published complete: temp file, link, unlink (35d666f) -/
theorem lock_publish_shape : Gen.DryRunGates.lockPublish = .tmpLink := by decide

/-- rename_operation: a dry run skips every writing statement — the lock included (since 055e350) -/
theorem rename_dry_run_gates : ∀ k, runsK .rename true k = false := runsKG_dry all_writes_gated rfl

open Gen.DryRunGates in
/-- a non-dry `plan` takes the lock and writes the plan; it applies nothing and has no other gated write
    (creating `.renamify/`, kind `.mkdir`, runs as well) -/
theorem plan_gates : runsK .plan false .lock = true ∧ runsK .plan false .planWrite = true ∧
    runsK .plan false .apply = false ∧ runsK .plan false .other = false := by decide

/-- the probe of detect_case_insensitive_fs is an RAII TempDir called from the rename planner -/
theorem probe_is_transient : Gen.DryRunGates.probeIsRaii = true ∧ Gen.DryRunGates.probeOnlyFromRenamePlanner = true ∧
    Gen.DryRunGates.searchPassesDryRunTrue = true := by decide

/-- the effective dry-run flag of a configuration -/
def isDry (c : Cfg) : Prop := c.dryRun = true ∨ c.cmd = .search

example : isDry ⟨.rename, true, false, false, true⟩ := Or.inl rfl

/-- Under any gate table all of whose writes are gated, however the lock is published, the program of a dry run is the
    ignore-file block (if auto-init adds its line) followed by the probe block (if the rename planner runs). -/
theorem dry_programGP {gs : List Gen.DryRunGates.Gate} (hgs : ∀ g ∈ gs, g.skippedByDryRun = true)
    (pub : Gen.DryRunGates.LockPublish) (c : Cfg) (hd : isDry c) :
    programGP gs pub c =
      (if c.autoInit then ignoreBlock else []) ++ (if c.probe && c.cmd != .replace then probeBlock else []) := by
  have he : effDry c.cmd c.dryRun = true := by
    rcases hd with h | h <;> rw [h]
    · cases c.cmd <;> rfl
    · rfl
  simp only [programGP, runsKG_dry hgs he, Bool.false_eq_true, if_false, List.append_nil]
  rfl

theorem dry_program (c : Cfg) (hd : isDry c) :
    program c = (if c.autoInit then ignoreBlock else []) ++ (if c.probe && c.cmd != .replace then probeBlock else []) :=
  dry_programGP all_writes_gated _ c hd

/-- every dry run, auto-init or not, writes only permitted paths -/
theorem dry_writes_permitted (c : Cfg) (hd : isDry c) : ∀ op ∈ program c, ∀ p ∈ written op, p ∈ permitted c := by
  rw [dry_program c hd]
  intro op hop p hp
  simp only [List.mem_append, List.mem_ite_nil_right] at hop
  unfold permitted
  rcases hop with ⟨hai, hop⟩ | ⟨_, hop⟩
  · rw [if_pos hai]
    exact List.mem_append_left _ (List.mem_append_right _ (ignoreBlock_writes op hop p hp))
  · exact List.mem_append_left _ (List.mem_append_left _ (probeBlock_writes op hop p hp))

/-- a dry run has the net effect of its ignore-file block alone: the probe directory is created and removed -/
theorem dry_exec (c : Cfg) (hd : isDry c) (t : T) (h1 : t .probeDir = none) (h2 : t .probeFile = none) :
    exec t (program c) = exec t (if c.autoInit then ignoreBlock else []) := by
  have frame : ∀ q, q ∉ [P.ignoreTmp, .ignoreFile] → exec t (if c.autoInit then ignoreBlock else []) q = t q :=
    fun q hq => exec_frame _ t q fun op hop hw => hq (ignoreBlock_writes op ((ite_nil_sublist _).subset hop) q hw)
  rw [dry_program c hd, exec_append]
  cases c.probe && c.cmd != .replace
  · rfl
  · exact exec_probeBlock _ ((frame _ (by decide)).trans h1) ((frame _ (by decide)).trans h2)

/-- **Read-only.**  Every dry run — plan --dry-run, search, rename --dry-run, replace --dry-run — in which auto-init
    adds nothing: the tree after the run is the tree before it, and every path the run writes is the transient probe. -/
theorem readonly_full (c : Cfg) (hd : isDry c) (hai : c.autoInit = false) (t : T)
    (h1 : t .probeDir = none) (h2 : t .probeFile = none) :
    exec t (program c) = t ∧ ∀ op ∈ program c, ∀ p ∈ written op, p ∈ permitted c := by
  refine ⟨?_, dry_writes_permitted c hd⟩
  rw [dry_exec c hd t h1 h2, hai]
  rfl

/-- C14's read-only half at full strength: every dry run of every command, with or without the one-time ignore-file
    addition: only permitted writes; every path but the ignore file exactly as before; and the whole tree identical
    when auto-init adds nothing in this run. -/
def C14_full : Prop :=
  ∀ (c : Cfg) (t : T), isDry c → t .probeDir = none → t .probeFile = none → t .ignoreTmp = none →
    (∀ op ∈ program c, ∀ p ∈ written op, p ∈ permitted c) ∧
    (∀ q, q ≠ .ignoreFile → exec t (program c) q = t q) ∧
    (c.autoInit = false → exec t (program c) = t)

theorem C14_full_holds : C14_full := by
  intro c t hd h1 h2 h3
  refine ⟨dry_writes_permitted c hd, fun q hq => ?_, fun hai => (readonly_full c hd hai t h1 h2).1⟩
  rw [dry_exec c hd t h1 h2]
  split
  · exact exec_ignoreBlock_frame t h3 q hq
  · rfl

def renameDry : Cfg := ⟨.rename, true, false, false, true⟩
def emptyTree : T := fun _ => none

/-- `rename --dry-run` today: the probe and nothing else -/
theorem rename_dryrun_writes_nothing :
    program renameDry = probeBlock ∧ exec emptyTree (program renameDry) .renamifyDir = none := by decide +kernel

/-- **Before 055e350.**  With the gate table as it was (lock taken before the dry-run gate, lock file created with O_EXCL) `rename --dry-run`
    created `.renamify/` (which stayed) and the lock file (removed again); neither is a permitted write of a dry run. -/
theorem before_fix_rename_dryrun_creates_renamify :
    FsOp.mkdir .renamifyDir ∈ programGP oldRenameGates .createNew renameDry ∧ FsOp.openw .lock ∈ programGP oldRenameGates .createNew renameDry ∧
    P.renamifyDir ∉ permitted renameDry ∧ P.lock ∉ permitted renameDry ∧
    exec emptyTree (programGP oldRenameGates .createNew renameDry) .renamifyDir = some .dir ∧
    exec emptyTree (programGP oldRenameGates .createNew renameDry) .lock = none := by
  decide +kernel

/-- **Read-only.**  Whatever the command (plan, search, rename, replace), dry run or not, auto-init or not: every path
    of the user's tree (`user n`: anything but `.renamify/…`, the probe, the ignore file and its temp file) is
    exactly as before.  In particular every `--dry-run` and every `search` has net effect identity on the user
    tree. -/
theorem readonly (c : Cfg) (t : T) (n : Nat) : exec t (program c) (.user n) = t (.user n) := by
  apply exec_frame
  intro op hop hmem
  -- every path a program writes is a named constructor of `P`, none is `.user n`
  simpa using programGP_writes _ _ c op hop _ hmem

/-- A non-dry `plan` writes only permitted paths (that no user path changes is `readonly`). -/
theorem plan_writes_permitted (ex ai pr : Bool) :
    ∀ op ∈ program ⟨.plan, false, ex, ai, pr⟩, ∀ p ∈ written op, p ∈ permitted ⟨.plan, false, ex, ai, pr⟩ := by
  intro op hop p hp
  unfold permitted
  rcases programGP_writes _ _ _ op hop p hp with h | ⟨hai, h⟩ | h
  · exact List.mem_append_left _ (List.mem_append_left _ h)
  · exact List.mem_append_left _ (List.mem_append_right _ (by rw [if_pos hai]; exact h))
  · exact List.mem_append_right _ h

/-- the ignore-file steps occur only in a run that has `autoInit`; the run that has it moves the temp file onto the
    ignore file and leaves no temp file -/
theorem autoinit_once (cmd : Cmd) (d ex pr : Bool) :
    (∀ op ∈ program ⟨cmd, d, ex, false, pr⟩, P.ignoreFile ∉ written op ∧ P.ignoreTmp ∉ written op) ∧
    exec emptyTree (program ⟨cmd, d, ex, true, pr⟩) .ignoreTmp = none ∧
    exec emptyTree (program ⟨cmd, d, ex, true, pr⟩) .ignoreFile = some (.file 1) := by
  have rest : ∀ op ∈ program ⟨cmd, d, ex, false, pr⟩, P.ignoreFile ∉ written op ∧ P.ignoreTmp ∉ written op := by
    intro op hop
    have hw := programGP_writes _ _ _ op hop
    exact ⟨fun h => by simpa using hw _ h, fun h => by simpa using hw _ h⟩
  have split : program ⟨cmd, d, ex, true, pr⟩ = ignoreBlock ++ program ⟨cmd, d, ex, false, pr⟩ := rfl
  rw [split, exec_append, exec_frame _ _ _ fun op hop => (rest op hop).1, exec_frame _ _ _ fun op hop => (rest op hop).2]
  exact ⟨rest, by decide +kernel, by decide +kernel⟩

end C14
