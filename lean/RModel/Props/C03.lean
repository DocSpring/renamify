import RModel.Base.Lit
import RModel.Model.Matcher
import RModel.Model.Hunks
import RModel.Model.Edits
import RModel.Gen.ReplaceOffsets
import RModel.Lemmas.Edits
import RModel.Lemmas.Matcher
import RModel.Lemmas.Utf8
import RModel.Lemmas.Literal
import RModel.Lemmas.Lines
import RModel.Lemmas.MatchEdits
/-
  C03 — Every plan is internally consistent with the files it describes.   (property theorems only)
-/
namespace C03
open Matcher

/-- Every match the case-aware matcher returns (all byte strings, all non-empty variant lists): a non-empty span in
    range that holds the bytes of a variant; `text`, `variant`, `line`, `column` are computed from that span. -/
theorem findMatches_consistent (vs : List Bytes) (c : Bytes) (hne : vs ≠ []) :
    ∀ m ∈ findMatches vs c,
      m.start < m.stop ∧ m.stop ≤ c.length ∧
      (c.take m.stop).drop m.start ∈ vs ∧
      m.text = Utf8.lossy ((c.take m.stop).drop m.start) ∧
      m.variant = (c.take m.stop).drop m.start ∧
      m.line = 1 + ((c.take m.start).filter (fun b => b.toNat == 10)).length ∧
      m.column = m.start - lineStart c m.start := by
  intro m hm
  simp only [findMatches, List.isEmpty_eq_false_iff.mpr hne, Bool.false_eq_true, if_false, List.mem_map,
    List.mem_filter] at hm
  obtain ⟨se, ⟨hse, _⟩, rfl⟩ := hm
  obtain ⟨h1, h2, h3⟩ := scan_spec vs c se hse
  have hnil : (c.take se.2).drop se.1 ≠ [] :=
    List.ne_nil_of_length_pos (by rw [List.length_drop, List.length_take_of_le h2]; exact Nat.sub_pos_of_lt h1)
  refine ⟨h1, h2, h3, rfl, ?_, ?_, rfl⟩
  · simp only [mkMatch, identifyVariant_self h3 hnil, Option.getD_some]
  · simp only [mkMatch, lineNo]; omega

/-- with variants that are valid UTF-8 (every Rust `String` is) the recorded text is exactly the file's bytes -/
theorem findMatches_text (vs : List Bytes) (c : Bytes) (hne : vs ≠ [])
    (hv : ∀ v ∈ vs, Utf8.valid v = true) :
    ∀ m ∈ findMatches vs c, (c.take m.stop).drop m.start = m.text ∧ m.text ∈ vs ∧ m.variant = m.text := by
  intro m hm
  obtain ⟨_, _, h3, h4, h5, _⟩ := findMatches_consistent vs c hne m hm
  rw [lossy_of_valid (hv _ h3)] at h4
  exact ⟨h4.symm, h4 ▸ h3, h5.trans h4.symm⟩

/-- matches come in ascending order and are pairwise disjoint -/
theorem findMatches_sorted (vs : List Bytes) (c : Bytes) :
    (findMatches vs c).Pairwise (fun a b => a.stop ≤ b.start) := by
  unfold findMatches
  split
  · split <;> simp
  · refine List.pairwise_map.mpr ?_
    exact (scan_pairwise _ _ _ _).sublist List.filter_sublist

/-- `leftmost_longest`: the alternation sorted by ESCAPED length (stable, descending) picks, at every
    position, the longest variant that matches there — unconditionally: escaping never shrinks a byte, so a
    proper prefix always has a strictly smaller escaped length.  (There is no variant set for which
    leftmost-first and leftmost-longest differ; this justifies the matcher model of DESIGN.md.) -/
theorem leftmost_longest (vs : List Bytes) (s a : Bytes) (h : firstAlt (orderAlts vs) s = some a)
    (v : Bytes) (hv : v ∈ vs) (hne : v ≠ []) (hp : v <+: s) : v.length ≤ a.length :=
  firstAlt_longest h hv hne hp

example : firstAlt (orderAlts [b!"a.b", b!"a.bcd", b!"a."]) b!"a.bcd!" = some b!"a.bcd" := by decide +kernel

/-- non-vacuity / shape of the result on a two-line input with a rejected (but consuming) candidate -/
example : findMatches [b!"foo", b!"foo_bar"] b!"xfoo foo_bar\n\tfoo" =
    [{ start := 5, stop := 12, line := 1, column := 5, variant := b!"foo_bar", text := b!"foo_bar" },
     { start := 14, stop := 17, line := 2, column := 1, variant := b!"foo", text := b!"foo" }] := by decide +kernel

/-- Character boundaries.  Proved for ASCII variants (what the case-aware planner generates: the variant table
    is rendered from ASCII alphanumeric tokens and the separators `_ - . space`) inside content that is valid
    UTF-8: the span starts with an ASCII byte, and the byte after an ASCII byte always starts a character.
    (For arbitrary valid-UTF-8 variants the statement is also true, but its proof needs the full
    self-synchronisation argument of UTF-8; not done here.) -/
theorem findMatches_boundaries (vs : List Bytes) (c : Bytes) (hne : vs ≠ [])
    (hc : Utf8.valid c = true) (hascii : ∀ v ∈ vs, ∀ b ∈ v, b.toNat < 128) :
    ∀ m ∈ findMatches vs c,
      Edits.isCharBoundary c m.start = true ∧ Edits.isCharBoundary c m.stop = true := by
  intro m hm
  obtain ⟨h1, h2, h3, _⟩ := findMatches_consistent vs c hne m hm
  -- a byte of the span is a byte of the variant
  have hasc : ∀ k a, m.start ≤ k → k < m.stop → c[k]? = some a → a.toNat < 128 := fun k a hk1 hk2 ha =>
    hascii _ h3 a (List.mem_of_getElem? (i := k - m.start)
      (by rw [List.getElem?_drop, Nat.add_sub_cancel' hk1, List.getElem?_take_of_lt hk2]; exact ha))
  have hlast : m.stop - 1 < c.length := by omega
  refine ⟨Utf8.isCharBoundary_iff.mpr ⟨by omega, fun b _ hb => ?_⟩,
    Utf8.isCharBoundary_iff.mpr ⟨h2, fun b _ hb => ?_⟩⟩
  · exact Utf8.isCont_eq_false (Or.inl (hasc _ b (Nat.le_refl _) h1 hb))
  · exact Utf8.valid_after_ascii hc (m.stop - 1) _ b (List.getElem?_eq_getElem hlast)
      (hasc _ _ (by omega) (by omega) (List.getElem?_eq_getElem hlast)) (by rwa [Nat.sub_add_cancel (by omega)])

/-- `findMatches_Consistent` — the link from C03 to C02: the matches of a file, turned into edits with any
    replacement strings (a Rust `String` never starts with a continuation byte), satisfy the guard of the apply
    loop; hence apply succeeds and produces the left-to-right substitution. -/
theorem findMatches_Consistent (vs : List Bytes) (c : Bytes) (hne : vs ≠ [])
    (hc : Utf8.valid c = true) (hascii : ∀ v ∈ vs, ∀ b ∈ v, b.toNat < 128)
    (hvalid : ∀ v ∈ vs, Utf8.valid v = true)
    (repl : Match → Bytes) (hrepl : ∀ m b, (repl m).head? = some b → Edits.isCont b = false) :
    Edits.Consistent c 0 (toEdits repl (findMatches vs c)) ∧
    Edits.applyEdits c (toEdits repl (findMatches vs c)) = .ok (Edits.spec c 0 (toEdits repl (findMatches vs c))) := by
  have hcons : Edits.Consistent c 0 (toEdits repl (findMatches vs c)) := by
    apply consistent_of_sorted c repl _ 0 (Nat.zero_le _) (fun _ _ => Nat.zero_le _) (findMatches_sorted vs c)
    intro m hm
    obtain ⟨h1, h2, _⟩ := findMatches_consistent vs c hne m hm
    obtain ⟨b1, b2⟩ := findMatches_boundaries vs c hne hc hascii m hm
    obtain ⟨t1, _⟩ := findMatches_text vs c hne hvalid m hm
    exact ⟨by omega, h2, b1, b2, t1, hrepl m⟩
  exact ⟨hcons, Edits.applyEdits_eq_spec c _ hcons⟩

/-- non-vacuity of the hypotheses: valid multi-byte content, ASCII variants, two matches -/
example : Utf8.valid b!"é fooBar → foo_bar" = true ∧
    (findMatches [b!"foo_bar", b!"fooBar"] b!"é fooBar → foo_bar").map (fun m => (m.start, m.stop)) = [(3, 9), (14, 21)] := by
  decide +kernel

/-- `sort_key_unique`: (line, column) — hence the plan's sort key (file, line, byte_offset) — identifies a match of a
    file: two matches with the same line and column are the same match.  (Needed by C14: sorting by that key gives an
    order that does not depend on the order in which files or matches were produced.) -/
theorem sort_key_unique (vs : List Bytes) (c : Bytes) (hne : vs ≠ []) :
    ∀ m1 ∈ findMatches vs c, ∀ m2 ∈ findMatches vs c,
      m1.line = m2.line → m1.column = m2.column → m1 = m2 := by
  intro m1 h1 m2 h2 hl hc
  obtain ⟨a1, a2, _, _, _, a6, a7⟩ := findMatches_consistent vs c hne m1 h1
  obtain ⟨b1, b2, _, _, _, b6, b7⟩ := findMatches_consistent vs c hne m2 h2
  have hln : lineNo c m1.start = lineNo c m2.start := by
    simp only [lineNo]; omega
  have hls : lineStart c m1.start = lineStart c m2.start := by
    rcases Nat.le_total m1.start m2.start with h | h
    · exact lineStart_eq_of_lineNo_eq c h hln
    · exact (lineStart_eq_of_lineNo_eq c h hln.symm).symm
  have l1 := lineStart_le c m1.start
  have l2 := lineStart_le c m2.start
  have hstart : m1.start = m2.start := by omega
  -- disjoint non-empty spans start at different positions
  have hne' : (findMatches vs c).Pairwise (fun a b => a.start ≠ b.start) :=
    (findMatches_sorted vs c).imp_of_mem fun {a _} ha _ hab =>
      Nat.ne_of_lt (Nat.lt_of_lt_of_le (findMatches_consistent vs c hne a ha).1 hab)
  exact hne'.eq_of_key_eq m1 h1 m2 h2 hstart

/-- `line_geometry`: the `line`-th element of `lines_with_terminator` (what `generate_hunks` indexes) is the line that
    starts at `start − column`, and it contains the match at `column` whenever the matched text has no newline
    (variants never do). -/
theorem line_geometry (vs : List Bytes) (c : Bytes) (hne : vs ≠ []) :
    ∀ m ∈ findMatches vs c,
      m.start - m.column = lineStart c m.start ∧
      Hunks.lineOf c m.line = some (Hunks.takeLine (c.drop (m.start - m.column))) ∧
      ((∀ b ∈ (c.take m.stop).drop m.start, (b.toNat != 10) = true) →
        ((Hunks.takeLine (c.drop (m.start - m.column))).drop m.column).take (m.stop - m.start)
          = (c.take m.stop).drop m.start) := by
  intro m hm
  obtain ⟨a1, a2, _, _, _, a6, a7⟩ := findMatches_consistent vs c hne m hm
  have hle := lineStart_le c m.start
  have hcol : m.start - m.column = lineStart c m.start := by omega
  rw [hcol]
  refine ⟨rfl, ?_, fun hnl => ?_⟩
  · rw [Hunks.lineOf, a6, Nat.add_sub_cancel_left]
    exact Hunks.lineOf_at c m.start (by omega)
  · -- the line from its start on: the newline-free run up to the match, the match, the rest
    have hrun : nlCount ((c.take m.start).drop (lineStart c m.start)) = 0 := nlCount_tail_run (c.take m.start)
    have hlen : ((c.take m.start).drop (lineStart c m.start)).length = m.column := by
      rw [List.length_drop, List.length_take_of_le (by omega)]
      omega
    have hlen' : ((c.take m.stop).drop m.start).length = m.stop - m.start := by
      rw [List.length_drop, List.length_take_of_le a2]
    rw [Hunks.drop_decomp c hle (Nat.le_of_lt a1), ← List.drop_take, Hunks.takeLine_append_noNl _ hrun,
      Hunks.takeLine_append_noNl _ (nlCount_eq_zero.mpr hnl), List.drop_left' hlen, List.take_left' hlen']

/-- `multi_root`: with the de-duplication of walker entries by real location (4d2e5a7), a plan over any list of search
    roots — nested, repeated, in any order — names every reached file once: the planned entries have pairwise distinct
    locations, and every location the walker reached is planned. -/
theorem multi_root_files_once {α} (entries : List (Bytes × α)) :
    (Hunks.dedupEntries entries).Pairwise (fun a b => a.1 ≠ b.1) ∧
    (∀ e ∈ Hunks.dedupEntries entries, e ∈ entries) ∧
    (∀ e ∈ entries, ∃ e' ∈ Hunks.dedupEntries entries, e'.1 = e.1) :=
  ⟨Hunks.dedupAux_pairwise [] entries, fun e he => (Hunks.dedupAux_mem [] entries e he).1,
   fun e he => Hunks.dedupAux_complete [] entries e he (by simp)⟩

/-- … hence no duplicate hunks: (file, line, column) identifies a hunk of the whole plan, across roots. -/
theorem multi_root_sort_key_unique (vs : List Bytes) (hne : vs ≠ []) (entries : List (Bytes × Bytes)) :
    ∀ x ∈ Hunks.planRoots vs entries, ∀ y ∈ Hunks.planRoots vs entries,
      x.1 = y.1 → x.2.line = y.2.line → x.2.column = y.2.column → x = y := by
  intro x hx y hy hf hl hc
  simp only [Hunks.planRoots, List.mem_flatMap, List.mem_map] at hx hy
  obtain ⟨e1, he1, m1, hm1, rfl⟩ := hx
  obtain ⟨e2, he2, m2, hm2, rfl⟩ := hy
  have hee : e1 = e2 := (Hunks.dedupAux_pairwise [] entries).eq_of_key_eq e1 he1 e2 he2 hf
  subst hee
  have := sort_key_unique vs e1.2 hne m1 hm1 m2 hm2 hl hc
  rw [this]

/-- before 4d2e5a7 (no de-duplication) a file reachable from two roots was planned twice: kernel-evaluated on the
    entries the walker yields for `. sub` -/
theorem C03_beforefix_overlapping_roots_duplicate_hunks :
    let entries := [(b!"/w/sub/b.txt", b!"x foo_bar y\n"), (b!"/w/sub/b.txt", b!"x foo_bar y\n")]
    (Hunks.planRootsNoDedup [b!"foo_bar"] entries).map (fun x => (x.2.start, x.2.stop)) = [(2, 9), (2, 9)] ∧
    (Hunks.planRoots [b!"foo_bar"] entries).map (fun x => (x.2.start, x.2.stop)) = [(2, 9)] := by decide +kernel

open Hunks

/-- `stats_sum`: the per-variant counters add up to the number of hunks listed, and the total over all files
    is the sum of the per-file counts -/
theorem stats_sum (variantsOfHunks : List Bytes) : totalOf (byVariant variantsOfHunks) = variantsOfHunks.length := by
  unfold byVariant
  rw [totalOf_foldl]
  simp [totalOf]

theorem stats_total (perFile : List (List Hunk)) :
    perFile.flatten.length = (perFile.map List.length).sum := List.length_flatten

/-- Full statement for the literal planner: every hunk's recorded text is what the (lossily decoded) file holds at
    the recorded offsets.  False before d278bf5 (`C03_beforefix_replace_line2`), a theorem since (below). -/
def planLiteral_consistent_full : Prop :=
  ∀ (file pat repl : Bytes), pat ≠ [] →
    ∀ h ∈ planLiteral Gen.replaceOffsetsFileRelative file pat repl,
      ((Utf8.lossy file).take h.stop).drop h.start = h.content

/-- what the literal planner guarantees whatever the flag `fr` (does `start` include the line offset `off`?) -/
theorem planLiteral_spec (fr : Bool) (file pat repl : Bytes) (hpat : pat ≠ []) :
    ∀ h ∈ planLiteral fr file pat repl, ∃ off,
      ((Utf8.lossy file).take (off + h.byteOffset + pat.length)).drop (off + h.byteOffset) = pat ∧
      h.start = (if fr then off else 0) + h.byteOffset ∧ h.stop = h.start + pat.length ∧ h.content = pat ∧
      (h.line = 1 → off = 0) := by
  intro h hh
  obtain ⟨off, h1, h2, h3, h4, h5⟩ :=
    literalLines_spec fr pat repl (Utf8.lossy file) hpat (strLines (Utf8.lossy file)) 1 (strLines_spec _) h hh
  refine ⟨off, slice_of_prefix_drop h1, h2, h3, h4, fun hl => ?_⟩
  obtain ⟨l, hr⟩ := h5 hl
  exact strLinesFrom_head hr

/-- `planLiteral_consistent_partial`: whatever the planner does with offsets, every hunk ON LINE 1 records the text
    that stands at its offsets (the line offset is 0 there).  Hunks on later lines are right only by coincidence
    (`C03_beforefix_replace_line2`). -/
theorem planLiteral_consistent_partial (fr : Bool) (file pat repl : Bytes) (hpat : pat ≠ []) :
    ∀ h ∈ planLiteral fr file pat repl, h.line = 1 →
      ((Utf8.lossy file).take h.stop).drop h.start = h.content := by
  intro h hh hl
  obtain ⟨off, h1, h2, h3, h4, h5⟩ := planLiteral_spec fr file pat repl hpat h hh
  have h0 := h5 hl
  subst h0
  rw [h3, h2, h4]
  cases fr <;> simpa using h1

/-- `planLiteral_consistent` for a planner that adds the line offset (d278bf5): every hunk, on every line -/
theorem planLiteral_consistent_fileRelative (file pat repl : Bytes) (hpat : pat ≠ []) :
    ∀ h ∈ planLiteral true file pat repl, ((Utf8.lossy file).take h.stop).drop h.start = h.content := by
  intro h hh
  obtain ⟨off, h1, h2, h3, h4, _⟩ := planLiteral_spec true file pat repl hpat h hh
  rw [h3, h2, h4]
  simpa using h1

/-- The theorem about the code AS IT IS, selected by the flag that translate/replace_offsets.py extracts from
    scanner.rs: with the fix in the tree this is full consistency, without it the line-1 guard remains. -/
theorem planLiteral_consistent_current (file pat repl : Bytes) (hpat : pat ≠ []) :
    ∀ h ∈ planLiteral Gen.replaceOffsetsFileRelative file pat repl,
      (Gen.replaceOffsetsFileRelative = true ∨ h.line = 1) →
      ((Utf8.lossy file).take h.stop).drop h.start = h.content := by
  intro h hh hg
  rcases hg with hg | hg
  · rw [hg] at hh
    exact planLiteral_consistent_fileRelative file pat repl hpat h hh
  · exact planLiteral_consistent_partial _ file pat repl hpat h hh hg

/-- `planLiteral_consistent`: the full statement holds for the planner AS IT IS NOW.  `Gen.replaceOffsetsFileRelative` is
    regenerated from scanner.rs by translate/replace_offsets.py on every run; should `process_file_content` stop adding the
    line offset, the flag flips to `false`, `decide` fails here and the check reports the broken proof. -/
theorem planLiteral_consistent : planLiteral_consistent_full := by
  intro file pat repl hpat h hh
  exact planLiteral_consistent_current file pat repl hpat h hh (Or.inl (by decide))

/-- `planLiteral_consistent_bytes` — the shape of seeded/_fixes/c03_replace_skip_non_utf8.diff: a planner that adds the line
    offset and leaves files that are not valid UTF-8 out of the plan (`skip = true`) is consistent with the BYTES ON DISK for
    EVERY file (no valid-UTF-8 guard: such a file is provably absent from the plan); one that does not skip them is so on
    the valid files. -/
theorem planLiteral_consistent_bytes (skip : Bool) (file pat repl : Bytes) (hpat : pat ≠ [])
    (hs : skip = true ∨ Utf8.valid file = true) :
    ∀ h ∈ planLiteralS true skip file pat repl, (file.take h.stop).drop h.start = h.content := by
  intro h hh
  rw [planLiteralS] at hh
  split at hh
  · cases hh
  · next hc =>
    have hv : Utf8.valid file = true := hs.elim (fun hs => by simpa [hs] using hc) id
    rw [← lossy_of_valid hv]
    exact planLiteral_consistent_fileRelative file pat repl hpat h hh

theorem planLiteral_skips_invalid (fr : Bool) (file pat repl : Bytes) (hv : Utf8.valid file = false) :
    planLiteralS fr true file pat repl = [] := by
  simp [planLiteralS, hv]

/-- The same for the planner AS IT IS, whatever the two generated flags say: consistent with the bytes on disk when it adds
    line offsets and either skips non-UTF-8 files (`Gen.replaceSkipsInvalidUtf8`, true since ddcbb1c: finding replace_lossy_offsets)
    or the file is valid UTF-8. -/
theorem planLiteral_bytes_current (file pat repl : Bytes) (hpat : pat ≠ []) :
    ∀ h ∈ planLiteralS Gen.replaceOffsetsFileRelative Gen.replaceSkipsInvalidUtf8 file pat repl,
      Gen.replaceOffsetsFileRelative = true →
      (Gen.replaceSkipsInvalidUtf8 = true ∨ Utf8.valid file = true) →
      (file.take h.stop).drop h.start = h.content := by
  intro h hh hfr hs
  rw [hfr] at hh
  exact planLiteral_consistent_bytes _ file pat repl hpat hs h hh

/-- for a file that is valid UTF-8 the text searched IS the file -/
theorem planLiteral_valid_file (file : Bytes) (hv : Utf8.valid file = true) : Utf8.lossy file = file :=
  lossy_of_valid hv

/-- The defect repaired by d278bf5, kernel-evaluated on the planner WITHOUT the line offset: `renamify replace --no-regex foo bar` on "first line\nsecond foo line":
    the hunk on line 2 records 7..10, where the file reads "ine"; the text is at 18..21. -/
theorem C03_beforefix_replace_line2 :
    planLiteral false b!"first line\nsecond foo line" b!"foo" b!"bar" =
      [{ line := 2, byteOffset := 7, charOffset := 7, start := 7, stop := 10, content := b!"foo", replace := b!"bar",
         lineBefore := b!"second foo line", lineAfter := b!"second bar line" }] ∧
    (b!"first line\nsecond foo line".take 10).drop 7 = b!"ine" ∧
    (b!"first line\nsecond foo line".take 21).drop 18 = b!"foo" := by decide +kernel

/-- the line-1 guard of `planLiteral_consistent_partial` was necessary before the fix -/
theorem C03_beforefix_replace_line_relative_offsets :
    ∃ h ∈ planLiteral false b!"first line\nsecond foo line" b!"foo" b!"bar",
      ((Utf8.lossy b!"first line\nsecond foo line").take h.stop).drop h.start ≠ h.content := by decide +kernel

/-- with file-relative offsets the same input is consistent -/
theorem C03_fixed_replace_line2 :
    (planLiteral true b!"first line\nsecond foo line" b!"foo" b!"bar").map (fun h => (h.start, h.stop)) = [(18, 21)] := by
  decide +kernel

/-- offsets index the lossily decoded text: in a file that is not valid UTF-8 they are shifted -/
theorem C03_witness_replace_lossy :
    (planLiteral true [0xFF, 32, 102, 111, 111, 10] b!"foo" b!"bar").map (fun h => (h.start, h.stop)) = [(4, 7)] ∧
    (([0xFF, 32, 102, 111, 111, 10] : Bytes).take 5).drop 2 = b!"foo" := by decide +kernel

/-- non-vacuity of the literal-planner theorems: a hunk on line 1 (guard holds) and one on line 2 -/
example : (planLiteral false b!"a foo\nfoo" b!"foo" b!"x").map (fun h => (h.line, h.start, h.stop)) = [(1, 2, 5), (2, 0, 3)] := by decide +kernel

/-- non-vacuity of `line_geometry` / `sort_key_unique`: two matches with the same column on different lines -/
example : (findMatches [b!"foo"] b!"x foo\ny foo\r\n").map (fun m => (m.line, m.column, m.start)) = [(1, 2, 2), (2, 2, 8)] ∧
    Hunks.lineOf b!"x foo\ny foo\r\n" 2 = some b!"y foo\r\n" := by decide +kernel

theorem C03_witness_replace_lossy_offsets :
    ∃ h ∈ planLiteral true [0xFF, 32, 102, 111, 111, 10] b!"foo" b!"bar",
      (([0xFF, 32, 102, 111, 111, 10] : Bytes).take h.stop).drop h.start ≠ h.content := by decide +kernel

/-- Line context on a line that is not valid UTF-8 in front of the match (`foo_bar \xff foo_bar z`, second match): the raw
    column 10 falls inside U+FFFD of the decoded line, the `find` fallback replaces the FIRST occurrence, and `char_offset`
    counts 9 characters instead of 10.  What the planner recorded before 7807217 (finding invalid_utf8_line_context). -/
theorem C03_witness_invalid_utf8_line_context :
    let c : Bytes := b!"foo_bar " ++ [0xFF] ++ b!" foo_bar z\n"
    Hunks.hunkGeomAt c 10 17 b!"foo_bar" b!"baz" =
      .ok { line := 1, byteOffset := 10, charOffset := 9, start := 10, stop := 17, content := b!"foo_bar", replace := b!"baz",
            lineBefore := b!"foo_bar \ufffd foo_bar z\n", lineAfter := b!"baz \ufffd foo_bar z\n" } .fallback := by decide +kernel

/-- before ac203f2 the planner panicked there (`line_string[match_col..]`, C16) -/
theorem C03_beforefix_invalid_utf8_panics :
    let c : Bytes := b!"foo_bar " ++ [0xFF] ++ b!" foo_bar z\n"
    Hunks.hunkGeomAtOld c 10 17 b!"foo_bar" b!"baz" = .panic := by decide +kernel

/-- the repaired shape leaves that file out of the plan -/
theorem C03_fixed_replace_lossy_offsets :
    planLiteralS true true [0xFF, 32, 102, 111, 111, 10] b!"foo" b!"bar" = [] ∧
    (planLiteralS true false [0xFF, 32, 102, 111, 111, 10] b!"foo" b!"bar").map (fun h => (h.start, h.stop)) = [(4, 7)] := by decide +kernel

/-- the repaired shape of `generate_hunks` (text before / after the match decoded separately) on the witness of
    invalid_utf8_line_context: the SECOND occurrence is replaced and `char_offset` is 10 -/
theorem C03_fixed_invalid_utf8_line_context :
    let c : Bytes := b!"foo_bar " ++ [0xFF] ++ b!" foo_bar z\n"
    Hunks.hunkGeomAtG true true c 10 17 b!"foo_bar" b!"baz" =
      .ok { line := 1, byteOffset := 10, charOffset := 10, start := 10, stop := 17, content := b!"foo_bar", replace := b!"baz",
            lineBefore := b!"foo_bar \ufffd foo_bar z\n", lineAfter := b!"foo_bar \ufffd baz z\n" } .splice := by decide +kernel

end C03
