import RModel.Base.Lit
import RModel.Model.Edits
import RModel.Model.Apply
import RModel.Lemmas.Edits
import RModel.Lemmas.Tree
/-
  C02 — Apply does exactly what the plan says and nothing else.

  Full statement on the tree model: `C02ren.apply_exact` (a successful `applyPlan` yields `moveAll` of the tree with
  every planned file edited) and `C02ren.apply_exact_content` (the bytes are the splice `Edits.spec`).
  Here: the back-to-front loop of `apply_content_edits_with_content` on one file equals the left-to-right specification
  for every consistent edit list; the guard is necessary (kernel-evaluated witness) and satisfiable (non-vacuity).
-/
namespace C02
open Edits

/-- Content phase, one file: any number of matches, any lengths, multi-byte text. -/
theorem applyEdits_eq_spec (c : Bytes) (es : List Edit) (h : Consistent c 0 es) :
    applyEdits c es = .ok (spec c 0 es) :=
  Edits.applyEdits_eq_spec c es h

/-- the result never depends on anything but the plan: positions before the first edit are copied -/
theorem applyEdits_prefix (c : Bytes) (off : Nat) (es : List Edit) (h : Consistent c off es) :
    applyEdits c es = .ok (c.take off ++ spec c off es) :=
  Edits.applyEdits_prefix c off es h

/-- no edits: the file is unchanged -/
theorem applyEdits_nil (c : Bytes) : applyEdits c [] = .ok c := rfl

/-- Non-vacuity: a two-edit plan over multi-byte text satisfies the guard … -/
example : Consistent b!"é foo_bar; fooBar" 0
    [{ before := b!"foo_bar", after := b!"baz_qux_x", start := 3, stop := 10 },
     { before := b!"fooBar", after := b!"b", start := 12, stop := 18 }] := by decide +kernel

/-- … and evaluates as the specification says. -/
example : applyEdits b!"é foo_bar; fooBar"
    [{ before := b!"foo_bar", after := b!"baz_qux_x", start := 3, stop := 10 },
     { before := b!"fooBar", after := b!"b", start := 12, stop := 18 }] = .ok b!"é baz_qux_x; b" := by decide +kernel

/-- The guard is needed: with the edits in descending order the loop corrupts the file
    (it validates against the original, so it does not notice), while the ascending order is right. -/
theorem applyEdits_unsorted_witness :
    applyEdits b!"aa bb" [{ before := b!"bb", after := b!"X", start := 3, stop := 5 },
                          { before := b!"aa", after := b!"YYYY", start := 0, stop := 2 }]
      = .ok b!"YYYXbb" ∧
    applyEdits b!"aa bb" [{ before := b!"aa", after := b!"YYYY", start := 0, stop := 2 },
                          { before := b!"bb", after := b!"X", start := 3, stop := 5 }]
      = .ok b!"YYYY X" := by decide +kernel

/-- an offset inside a character (or past the end) is reported as a stale plan: a clean failure, nothing written
    (repo commit 29e3f64; before it the unchecked slice panicked) -/
theorem applyEdits_midchar_mismatch :
    applyEdits b!"é" [{ before := b!"", after := b!"x", start := 1, stop := 1 }] = .error .mismatch ∧
    applyEditsOld b!"é" [{ before := b!"", after := b!"x", start := 1, stop := 1 }] = .error .panic := by decide +kernel

/-- the loop as it is never panics: every failure is a reported mismatch — for all contents and edit lists -/
theorem applyEdits_never_panics (c : Bytes) (es : List Edit) : applyEdits c es ≠ .error .panic :=
  applyEdits_ne_panic c es

/-- stale text is reported as a mismatch and nothing is written -/
theorem applyEdits_stale_mismatch :
    applyEdits b!"foo" [{ before := b!"bar", after := b!"x", start := 0, stop := 3 }] = .error .mismatch := by decide +kernel

open Fs in
/-- Editing one file leaves every other path of the tree exactly as it was. -/
theorem setContent_other (t : Tree) (p q : Path) (c : Bytes) (h : q ≠ p) :
    lookup (setContent t p c) q = lookup t q :=
  RenamePhase.lookup_setContent_of_ne t c h

end C02
