import RModel.Base.Lit
import RModel.Model.Scope
import RModel.Model.Apply
import RModel.Gen.Walker
import RModel.Lemmas.Scope
import RModel.Lemmas.ApplyFrame
/-
  C09 — Out-of-scope files are never planned or modified.

  `Gen.pipeline` is the configuration REGENERATED from lib.rs / scanner.rs / content_inspector on every run, the
  `Gen.doc*` tables are regenerated from filtering.mdx and README.md.  Every theorem below is about that data, so a
  changed arm, flag, file name, comparison or table is re-checked by the kernel.

  Full statement (`C09_full`, a `def`, not a theorem): every clause of the property for every level, request and entry.
  Three clauses depend on how the code is written; each comes as a pair
      flag = true → clause            (proved for all inputs)
      flag = true ∨ witness = true    (closed by kernel evaluation of the generated data: when the flag is false, the
                                       witness is an entry on which the clause fails)
  with the flag computed from the generated tables:
      Gen.filtersRenamifyDir            `.renamify` is rejected by the name filter of every arm
      rgignoreCellsAgree                `.rgignore` is registered exactly at the documented levels
      !Gen.simplePlanFollowsSymlinks    the `replace` planner tests the lstat type
  `C09_full_of_flags` puts the three together.
-/
namespace C09
open Scope

abbrev P : Pipeline := Gen.pipeline

/-- no planner can look at entry `e` -/
def outOfScope (r : Request) (e : Entry) : Prop :=
  inScope P r e = false ∧ inScopeSimple P r e = false ∧ renameCandidate P r e = false

theorem outOfScope_of_not_walked (r : Request) (e : Entry)
    (h : walked (P.cfgFor r) r.site e.path = false) : outOfScope r e := by
  unfold outOfScope inScope inScopeSimple renameCandidate
  simp [h]

theorem filtered_never (n : Name) (hf : Gen.walker.allCfgs.all (fun c => c.filtered.contains n) = true)
    (r : Request) (e : Entry) (h : n ∈ e.path) : outOfScope r e :=
  outOfScope_of_not_walked r e
    (walked_false_of_filtered _ _ _ n h (cfg_all Gen.walker (fun c => c.filtered.contains n) hf _))

/-- Any level (0–3, higher ones, the legacy flag), any ignore oracle, glob set and tree: an entry with a component
    named `.git` at any depth is never scanned and never proposed for renaming. -/
theorem git_never (r : Request) (e : Entry) (h : gitName ∈ e.path) : outOfScope r e :=
  filtered_never gitName (by decide) r e h

/-- the same for renamify's own directory — as soon as every arm's name filter rejects `.renamify` -/
theorem renamify_never (hfix : Gen.filtersRenamifyDir = true) (r : Request) (e : Entry) (h : renamifyName ∈ e.path) :
    outOfScope r e :=
  filtered_never renamifyName hfix r e h

/-- a request with no ignore files and no globs on the tree  `.renamify/plans/x.json`  -/
def bareRequest (level : Nat) : Request :=
  { level := level, gm := Glob.matchesD, globs := { includes := [], excludes := [] },
    site := { gitAt := fun _ => false, ancGit := false, ign := fun _ _ => false, ignAbove := fun _ _ => false,
              ty := fun p => if p.length < 3 then .dir else .file } }

def statePlan : Entry := { path := [renamifyName, b!"plans", b!"x.json"], ftype := .file, content := b!"{\"search\": \"foo_bar\"}" }

/-- unless every arm filters `.renamify`: at every level 0–3 a stored plan below it is in scope of the content planners
    and a rename candidate -/
theorem renamify_never_or_witness :
    Gen.filtersRenamifyDir = true ∨
    ([0, 1, 2, 3].all (fun l => inScope P (bareRequest l) statePlan && inScopeSimple P (bareRequest l) statePlan &&
        renameCandidate P (bareRequest l) statePlan)) = true := by decide +kernel

/-- non-vacuity of `git_never` / `renamify_never`: the same entry under another name is in scope, under `.git` it is not -/
example : inScope P (bareRequest 0) { statePlan with path := [b!"state", b!"plans", b!"x.json"] } = true := by decide +kernel
example : inScope P (bareRequest 2) { statePlan with path := [gitName, b!"plans", b!"x.json"] } = false := by decide +kernel
example : renameCandidate P (bareRequest 3) { statePlan with path := [b!"a", gitName, b!"x.json"] } = false := by decide +kernel

def codeHonours (k : IgnKind) (l : Nat) (inGit : Bool) : Bool := honoured (Gen.walker.cfg l) inGit k

/-- the documented table: filtering.mdx where it speaks, README.md otherwise -/
def doc (k : IgnKind) (l : Nat) : Option Bool := (Gen.docMdx k l).orElse (fun _ => Gen.docReadme k l)

/-- the two documents never contradict each other on an ignore-file cell -/
theorem docs_agree : ∀ l, l ≤ 3 → ∀ k, Gen.docMdx k l = none ∨ Gen.docReadme k l = none ∨ Gen.docMdx k l = Gen.docReadme k l := by
  apply forall_le3 <;> intro k <;> cases k <;> decide

/-- 12 of the 16 cells: `.gitignore`, `.ignore`, `.rnignore` are honoured exactly at the documented levels, inside and
    outside a git repository -/
theorem ignore_files_by_level_partial : ∀ l, l ≤ 3 → ∀ k inGit, k ≠ .rgignore → k ≠ .gitExclude →
    doc k l = some (codeHonours k l inGit) := by
  apply forall_le3 <;> intro k inGit h1 h2 <;> cases k <;> cases inGit <;> first | contradiction | decide

/-- `.git/info/exclude` (exists only inside a repository) -/
theorem git_exclude_by_level : ∀ l, l ≤ 3 → doc .gitExclude l = some (codeHonours .gitExclude l true) := by
  apply forall_le3 <;> decide

def rgignoreCellsAgree : Bool := [0, 1, 2, 3].all (fun l => doc .rgignore l == some (codeHonours .rgignore l false))

theorem rgignore_inGit_irrelevant (l : Nat) (inGit : Bool) : codeHonours .rgignore l inGit = codeHonours .rgignore l false := rfl

theorem ignore_files_by_level_rgignore (hfix : rgignoreCellsAgree = true) : ∀ l, l ≤ 3 → ∀ inGit,
    doc .rgignore l = some (codeHonours .rgignore l inGit) := by
  unfold rgignoreCellsAgree at hfix
  simp only [List.all_cons, List.all_nil, Bool.and_true, Bool.and_eq_true, beq_iff_eq] at hfix
  obtain ⟨h0, h1, h2, h3⟩ := hfix
  apply forall_le3 <;> intro inGit <;> rw [rgignore_inGit_irrelevant] <;> assumption

/-- unless the four cells agree: `.rgignore` is documented as honoured at levels 0 and 1 and consulted at neither -/
theorem rgignore_cells_or_witness :
    rgignoreCellsAgree = true ∨
    (doc .rgignore 0 = some true ∧ codeHonours .rgignore 0 true = false ∧
     doc .rgignore 1 = some true ∧ codeHonours .rgignore 1 true = false) := by decide +kernel

/-- all 16 cells, given the flag -/
theorem ignore_files_by_level (hfix : rgignoreCellsAgree = true) : ∀ l, l ≤ 3 → ∀ k, k ≠ .gitExclude → ∀ inGit,
    doc k l = some (codeHonours k l inGit) := by
  intro l hl k hk inGit
  by_cases h : k = .rgignore
  · rw [h]; exact ignore_files_by_level_rgignore hfix l hl inGit
  · exact ignore_files_by_level_partial l hl k inGit h hk

/-- What a cell means for the pipeline: an honoured ignore file that matches the entry or any ancestor directory
    (`a ++ [n]` is a non-empty prefix of the path) puts the entry out of scope of all three planners. -/
theorem ignored_out_of_scope (r : Request) (e : Entry) (k : IgnKind) (a : RelPath) (n : Name) (b : RelPath)
    (hp : e.path = a ++ n :: b) (hk : honoured (P.cfgFor r) (inGitAt (P.cfgFor r) r.site a) k = true)
    (hi : r.site.ign k (a ++ [n]) = true ∨ ((P.cfgFor r).parents = true ∧ r.site.ignAbove k (a ++ [n]) = true)) :
    outOfScope r e := by
  apply outOfScope_of_not_walked
  rw [hp]
  exact walked_false_of_ignored _ _ a n b k hk hi

/-- a request whose only ignore rule is: kind `k` names `vendor` -/
def vendorRequest (k : IgnKind) (level : Nat) : Request :=
  { bareRequest level with site := { (bareRequest level).site with ign := fun k' p => k' == k && p == [b!"vendor"] } }

/-- the same rule, but the ignore file lives in an ancestor of the scan root (e.g. `renamify plan … src` with the
    `.rnignore` in the project root) -/
def vendorAboveRequest (k : IgnKind) (level : Nat) : Request :=
  { bareRequest level with site := { (bareRequest level).site with ignAbove := fun k' p => k' == k && p == [b!"vendor"] } }

def vendored : Entry := { path := [b!"vendor", b!"lib", b!"foo_bar.rs"], ftype := .file, content := b!"foo_bar" }

/-- non-vacuity + the level table by evaluation on an entry two levels below the ignored directory -/
example : [0, 1, 2, 3].map (fun l => inScope P (vendorRequest .rnignore l) vendored) = [false, false, true, true] := by decide +kernel
example : [0, 1, 2, 3].map (fun l => inScope P (vendorRequest .gitignore l) vendored) = [false, true, true, true] := by decide +kernel
example : [0, 1, 2, 3].map (fun l => inScope P (vendorRequest .ignore l) vendored) = [false, false, true, true] := by decide +kernel
/-- the legacy flag `respect_gitignore = false` at level 0 behaves as `-u` -/
example : inScope P { vendorRequest .gitignore 0 with respectGitignore := false } vendored = true := by decide +kernel

/-- Ignore files in ancestors of the scan root: `parents(…)` is switched on exactly at the levels at which the documents
    say that some ignore file is honoured — so `-u` on a sub-directory still sees the project's `.ignore`/`.rnignore`. -/
theorem parents_matches_docs : ∀ l, l ≤ 3 →
    (Gen.walker.cfg l).parents = [IgnKind.gitignore, .ignore, .rgignore, .rnignore].any (fun k => doc k l == some true) := by
  apply forall_le3 <;> decide

/-- … and then an honoured ancestor ignore file matching the entry or one of its ancestors below the root puts the
    entry out of scope (instance of `ignored_out_of_scope`) -/
theorem ancestor_ignored_out_of_scope (r : Request) (e : Entry) (k : IgnKind) (a : RelPath) (n : Name) (b : RelPath)
    (hp : e.path = a ++ n :: b) (hpar : (P.cfgFor r).parents = true)
    (hk : honoured (P.cfgFor r) (inGitAt (P.cfgFor r) r.site a) k = true) (hi : r.site.ignAbove k (a ++ [n]) = true) :
    outOfScope r e :=
  ignored_out_of_scope r e k a n b hp hk (Or.inr ⟨hpar, hi⟩)

example : [0, 1, 2, 3].map (fun l => inScope P (vendorAboveRequest .rnignore l) vendored) = [false, false, true, true] := by decide +kernel
example : [0, 1, 2, 3].map (fun l => inScope P (vendorAboveRequest .ignore l) vendored) = [false, false, true, true] := by decide +kernel
example : [0, 1, 2, 3].map (fun l => inScope P (vendorAboveRequest .gitignore l) vendored) = [false, true, true, true] := by decide +kernel
/-- `.git/info/exclude` of a repository whose `.git` is in an ANCESTOR of the root: consulted at level 0 only (the ignore
    crate tracks ancestor repositories only while git_ignore is on) — outside the property's list of ignore files -/
example : [0, 1, 2].map (fun l => inScope P { vendorAboveRequest .gitExclude l with
    site := { (vendorAboveRequest .gitExclude l).site with ancGit := true } } vendored) = [false, true, true] := by decide +kernel

/-- … and then a directory named in `.rgignore` stays in scope at levels 0 and 1 -/
theorem rgignore_pipeline_or_witness :
    rgignoreCellsAgree = true ∨
    [0, 1].map (fun l => inScope P (vendorRequest .rgignore l) vendored) = [true, true] := by decide +kernel

/-- hidden entries are walked at every level, as filtering.mdx says (README.md says otherwise for the default level;
    the property does not list hidden files as out of scope) -/
theorem hidden_matches_filtering_mdx : ∀ l, l ≤ 3 → Gen.docHiddenIncludedMdx[l]? = some (!(Gen.walker.cfg l).hidden) := by
  apply forall_le3 <;> decide

theorem binaryAsText_iff (l : Nat) : Gen.binaryAsText l = true ↔ 3 ≤ l := by
  simp [Gen.binaryAsText]

/-- Below level 3 a file with a NUL byte in its first 1024 bytes (and no byte-order mark in front, which
    content_inspector reads as UTF-16/32 text) is never scanned, whatever the walker, ignore files and globs say. -/
theorem binary_below_3 (r : Request) (e : Entry) (hl : r.level < 3)
    (hbom : Gen.byteOrderMarks.any (fun m => m.isPrefixOf e.content) = false)
    (hnul : B.contains (e.content.take 1024) 0 = true) :
    inScope P r e = false ∧ inScopeSimple P r e = false := by
  have hb : isBinary P.S e.content = true := isBinary_of_nul _ _ hbom hnul
  have ht : P.binaryAsText r.level = false :=
    Bool.eq_false_iff.2 fun h => Nat.not_le_of_lt hl ((binaryAsText_iff r.level).1 h)
  unfold inScope inScopeSimple
  simp [hb, ht]

/-- From level 3 on the sniff plays no role. -/
theorem binary_at_3 (r : Request) (e : Entry) (hl : 3 ≤ r.level) :
    inScope P r e = (walked (P.cfgFor r) r.site e.path && isFileFor P.scanFollows e && globsOk P.G r.gm r.globs e.path) := by
  have ht : P.binaryAsText r.level = true := (binaryAsText_iff r.level).mpr hl
  unfold inScope
  simp [ht]

/-- The `replace` planner at level ≥ 3: the sniff plays no role either, but a file that is not valid UTF-8 is still left
    out when `process_file_content` refuses it (`Gen.replaceSkipsInvalidUtf8`; apply reads files as `String` and could
    never edit it). -/
theorem binary_at_3_simple (r : Request) (e : Entry) (hl : 3 ≤ r.level) :
    inScopeSimple P r e = (walked (P.cfgFor r) r.site e.path && globsOk P.G r.gm r.globs (simpleGlobPath P r e) &&
      isFileFor P.simpleFollows e && (!Gen.replaceSkipsInvalidUtf8 || Utf8.valid e.content)) := by
  have ht : P.binaryAsText r.level = true := (binaryAsText_iff r.level).mpr hl
  have hs : P.simpleSkipsInvalidUtf8 = Gen.replaceSkipsInvalidUtf8 := rfl
  unfold inScopeSimple
  simp [ht, hs]

/-- `replace`, every level: a file that is not valid UTF-8 is never planned — once the planner refuses such files -/
theorem simple_invalid_utf8_never (hfix : Gen.replaceSkipsInvalidUtf8 = true) (r : Request) (e : Entry)
    (hv : Utf8.valid e.content = false) : inScopeSimple P r e = false := by
  have hs : P.simpleSkipsInvalidUtf8 = true := hfix
  unfold inScopeSimple
  simp [hs, hv]

/-- "binary by sniffing" and "not valid UTF-8" are different notions: `caf\xE9 foo_bar` has no NUL, BOM or magic number -/
def latin1Entry : Entry := { path := [b!"latin1.txt"], ftype := .file, content := b!"caf" ++ [233] ++ b!" foo_bar" }
/-- … valid UTF-8 with a NUL byte: binary for the sniff only -/
def nulEntry : Entry := { path := [b!"nul.txt"], ftype := .file, content := b!"foo_bar" ++ [0] ++ b!"x" }

example : isBinary P.S latin1Entry.content = false ∧ Utf8.valid latin1Entry.content = false := by decide +kernel
example : isBinary P.S nulEntry.content = true ∧ Utf8.valid nulEntry.content = true := by decide +kernel
/-- `plan`/`rename` scan the Latin-1 file at every level (they work on bytes) -/
example : [0, 1, 2, 3].map (fun l => inScope P (bareRequest l) latin1Entry) = [true, true, true, true] := by decide +kernel
/-- both shapes of the `replace` planner, decided by the generated flag: it skips the Latin-1 file at every level and
    takes the NUL file at level 3 only — or (lossy decoding) it takes the Latin-1 file at every level -/
theorem simple_invalid_utf8_both_shapes :
    (Gen.replaceSkipsInvalidUtf8 = true ∧
      [0, 1, 2, 3].map (fun l => inScopeSimple P (bareRequest l) latin1Entry) = [false, false, false, false] ∧
      [0, 1, 2, 3].map (fun l => inScopeSimple P (bareRequest l) nulEntry) = [false, false, false, true]) ∨
    (Gen.replaceSkipsInvalidUtf8 = false ∧
      [0, 1, 2, 3].map (fun l => inScopeSimple P (bareRequest l) latin1Entry) = [true, true, true, true]) := by decide +kernel

/-- the documented binary column -/
theorem binary_matches_docs : ∀ l, l ≤ 3 →
    Gen.docBinarySkippedMdx[l]? = some (!Gen.binaryAsText l) ∧ Gen.docBinarySkippedReadme[l]? = some (!Gen.binaryAsText l) := by
  apply forall_le3 <;> decide

def binEntry : Entry := { path := [b!"a.bin"], ftype := .file, content := b!"foo_bar" ++ [0] ++ b!"x" }
/-- non-vacuity: the same file is skipped at 0–2 and scanned at 3; the NUL-free prefix is scanned everywhere;
    `%PDF` and `\x89PNG` headers count as binary; a UTF-16 BOM in front makes NUL bytes acceptable -/
example : [0, 1, 2, 3].map (fun l => inScope P (bareRequest l) { binEntry with path := [b!"a.bin"] }) = [false, false, false, true] := by decide +kernel
example : inScope P (bareRequest 0) { binEntry with content := b!"foo_bar" } = true := by decide +kernel
example : isBinary P.S b!"%PDF-1.4 foo_bar" = true ∧ isBinary P.S ([137] ++ b!"PNG") = true := by decide +kernel
example : isBinary P.S ([255, 254] ++ b!"f" ++ [0] ++ b!"o" ++ [0]) = false := by decide +kernel

/-- `plan`/`rename`/`search`: a symlink is never scanned (the test is on the lstat type: `Gen.scanFollowsSymlinks`
    is false) -/
theorem symlinks_not_scanned (r : Request) (e : Entry) (h : e.ftype = .symlink) : inScope P r e = false := by
  have hflag : P.scanFollows = false := rfl
  unfold inScope isFileFor
  simp [h, hflag]

/-- nothing below a symlinked directory is reached by any planner: `follow_links` is never switched on -/
theorem symlinks_not_followed (r : Request) (e : Entry) (a : RelPath) (n : Name) (b : RelPath)
    (hp : e.path = a ++ n :: b) (hb : b ≠ []) (ht : r.site.ty (a ++ [n]) = .symlink) : outOfScope r e := by
  apply outOfScope_of_not_walked
  rw [hp]
  exact walked_false_below_symlink _ _ a n b hb
    ((Bool.not_eq_true' _).mp (cfg_all Gen.walker (fun c => !c.followLinks) (by decide) _)) ht

/-- the `replace` planner: same, once it tests the lstat type -/
theorem simple_symlinks_not_scanned (hfix : Gen.simplePlanFollowsSymlinks = false) (r : Request) (e : Entry)
    (h : e.ftype = .symlink) : inScopeSimple P r e = false := by
  have hflag : P.simpleFollows = false := hfix
  unfold inScopeSimple isFileFor
  simp [h, hflag]

def linkEntry : Entry := { path := [b!"link.txt"], ftype := .symlink, linkToFile := true, content := b!"foo_bar" }

/-- unless `create_simple_plan` tests the lstat type (`Path::is_file` follows the link): `replace` plans an edit of a
    symlink to a file that `plan` leaves alone -/
theorem simple_symlinks_or_witness :
    Gen.simplePlanFollowsSymlinks = false ∨
    (inScopeSimple P { bareRequest 0 with site := { (bareRequest 0).site with ty := fun _ => .symlink } } linkEntry = true ∧
     inScope P { bareRequest 0 with site := { (bareRequest 0).site with ty := fun _ => .symlink } } linkEntry = false) := by decide +kernel

/-- The `replace` planner hands the path relative to its FIRST search path to the glob sets; for the first (or only)
    path that is the entry's own relative path — the hypothesis `hs` of the three theorems below. -/
theorem simpleGlobPath_first (r : Request) (e : Entry) (h : r.firstRoot = true) : simpleGlobPath P r e = e.path := by
  simp [simpleGlobPath, h]

theorem simpleGlobPath_fixed (hfix : Gen.simpleGlobsFirstRootOnly = false) (r : Request) (e : Entry) :
    simpleGlobPath P r e = e.path := by
  simp [simpleGlobPath, P, Gen.pipeline, hfix]

/-- a second search path, for `C09_witness_replace_globs_first_path_only`: if only the first search path is stripped,
    `--exclude vendor` does not stop `replace` from planning `vendor/lib/foo_bar.rs` below a second one (the glob sees
    the absolute path), while `plan` leaves it out -/
def secondPathRequest : Request :=
  { bareRequest 0 with
    globs := { includes := [], excludes := [b!"vendor"] }
    firstRoot := false
    absPrefix := [[], b!"home", b!"sub"] }

theorem C09_witness_replace_globs_first_path_only :
    Gen.simpleGlobsFirstRootOnly = false ∨
    (inScopeSimple P secondPathRequest vendored = true ∧ inScope P secondPathRequest vendored = false) := by decide +kernel

/-- the three planners apply the include / exclude sets: an entry they reject is out of scope -/
theorem outOfScope_of_globs (r : Request) (e : Entry) (hs : simpleGlobPath P r e = e.path)
    (h : globsOk P.G r.gm r.globs e.path = false) : outOfScope r e := by
  unfold outOfScope inScope inScopeSimple renameCandidate
  simp [h, hs]

/-- an entry matched by one of the expanded `--exclude` patterns is out of scope -/
theorem excluded_out (r : Request) (e : Entry) (q : Bytes) (hs : simpleGlobPath P r e = e.path)
    (hq : q ∈ expandPatterns P.G.expands P.G.plain r.globs.excludes) (hg : r.gm q (joinPath e.path) = true) :
    outOfScope r e := by
  refine outOfScope_of_globs r e hs ?_
  have hne : r.globs.excludes.isEmpty = false := by
    cases h : r.globs.excludes with
    | nil => rw [h] at hq; cases hq
    | cons _ _ => rfl
  rw [globsOk, hne, List.any_eq_true.2 ⟨q, hq, hg⟩]
  exact Bool.and_false _

/-- an entry matched by an `--exclude` pattern is out of scope of all planners -/
theorem excluded_glob_out (r : Request) (e : Entry) (pat : Bytes) (hs : simpleGlobPath P r e = e.path)
    (hm : pat ∈ r.globs.excludes) (hg : r.gm pat (joinPath e.path) = true) : outOfScope r e :=
  excluded_out r e pat hs (mem_expandPatterns hm) hg

/-- `build_globset`'s directory rule: `--exclude vendor` (or `vendor/`) also excludes what `vendor/**` matches -/
theorem excluded_dir_contents_out (r : Request) (e : Entry) (pat : Bytes) (hs : simpleGlobPath P r e = e.path)
    (hm : pat ∈ r.globs.excludes)
    (hd : looksLikeDir Gen.globPlainChars pat = true) (hg : r.gm (recursivePattern pat) (joinPath e.path) = true) :
    outOfScope r e :=
  excluded_out r e _ hs (rec_mem_expandPatterns hm (by decide) hd) hg

/-- with `--include`, an entry no (expanded) include pattern matches is out of scope -/
theorem not_included_out (r : Request) (e : Entry) (hs : simpleGlobPath P r e = e.path) (hne : r.globs.includes ≠ [])
    (hno : ∀ pat ∈ expandPatterns P.G.expands P.G.plain r.globs.includes, r.gm pat (joinPath e.path) = false) :
    outOfScope r e := by
  refine outOfScope_of_globs r e hs ?_
  rw [globsOk, List.isEmpty_eq_false_iff.2 hne, List.any_eq_false.2 fun p hp => Bool.eq_false_iff.1 (hno p hp)]
  rfl

/-- non-vacuity with the concrete matcher: `vendor` excludes `vendor/lib/foo_bar.rs`, `vend` does not;
    `**/*.md` includes only markdown -/
example : inScope P { bareRequest 0 with globs := { includes := [], excludes := [b!"vendor"] } } vendored = false := by decide +kernel
example : inScope P { bareRequest 0 with globs := { includes := [], excludes := [b!"vend"] } } vendored = true := by decide +kernel
example : inScope P { bareRequest 0 with globs := { includes := [b!"**/*.md"], excludes := [] } } vendored = false := by decide +kernel
example : inScope P { bareRequest 0 with globs := { includes := [b!"**/*.rs"], excludes := [] } } vendored = true := by decide +kernel
example : expandPatterns true Gen.globPlainChars [b!"vendor", b!"docs/", b!"*.md", b!"a.txt"] =
    [b!"vendor", b!"vendor/**", b!"docs/", b!"docs/**", b!"*.md", b!"a.txt"] := by decide +kernel

/-- the matches that become hunks: neither variant nor text listed, line not matched by the user's regex -/
theorem mem_keptMatches {excl : List Bytes} {lineRe : Option (Bytes → Bool)} {ms : List Match} {m : Match} :
    m ∈ keptMatches Gen.exclCfg excl lineRe ms ↔
      m ∈ ms ∧ m.variant ∉ excl ∧ m.text ∉ excl ∧ ∀ re, lineRe = some re → re m.line = false := by
  rw [keptMatches, List.mem_filter]
  cases lineRe <;>
    simp [excludedMatch, Gen.exclCfg, Gen.excludeComparesVariant, Gen.excludeComparesText, and_assoc]

/-- no hunk for a match whose variant (the whole compound identifier for compound matches) or text is listed -/
theorem excluded_match_no_hunk (excl : List Bytes) (lineRe : Option (Bytes → Bool)) (ms : List Match) (m : Match)
    (h : m ∈ keptMatches Gen.exclCfg excl lineRe ms) : m.variant ∉ excl ∧ m.text ∉ excl :=
  have h := mem_keptMatches.1 h
  ⟨h.2.1, h.2.2.1⟩

/-- no hunk on a line the user's regex matches -/
theorem excluded_lines_no_hunk (excl : List Bytes) (re : Bytes → Bool) (ms : List Match) (m : Match)
    (h : m ∈ keptMatches Gen.exclCfg excl (some re) ms) : re m.line = false :=
  (mem_keptMatches.1 h).2.2.2 re rfl

/-- … and nothing else is dropped -/
theorem unexcluded_kept (excl : List Bytes) (lineRe : Option (Bytes → Bool)) (ms : List Match) (m : Match) (hm : m ∈ ms)
    (h1 : m.variant ∉ excl) (h2 : m.text ∉ excl) (h3 : ∀ re, lineRe = some re → re m.line = false) :
    m ∈ keptMatches Gen.exclCfg excl lineRe ms :=
  mem_keptMatches.2 ⟨hm, h1, h2, h3⟩

example : keptMatches Gen.exclCfg [b!"bazFooQux"] (some (fun l => b!"//".isPrefixOf l))
    [{ variant := b!"bazFooQux", text := b!"bazBarQux", line := b!"let bazFooQux = 1;" },
     { variant := b!"foo", text := b!"foo", line := b!"// foo" },
     { variant := b!"foo", text := b!"foo", line := b!"let foo = 2;" }]
    = [{ variant := b!"foo", text := b!"foo", line := b!"let foo = 2;" }] := by decide +kernel

/-- `apply` (model of apply.rs, compared with the real `apply_plan` by C02's correspondence): for every tree and every
    plan, a path that is not a file with hunks and does not lie at or below the source or destination of a planned
    rename has the same node afterwards — whatever the outcome (success, mismatch, failed rename + rollback). So a
    file that the planner kept out of the plan is not modified. -/
theorem apply_touches_only_planned (t : Fs.Tree) (p : Apply.Plan) (q : Path) (h : ApplyFrame.planned p q = false) :
    Fs.lookup (Apply.applyPlan t p).tree q = Fs.lookup t q :=
  ApplyFrame.applyPlan_frame t p q h

/-- non-vacuity: a plan that edits `a.txt` and renames `foo` → `bar`; `.git/config` and the symlink `ln` are not planned
    and keep their nodes, `a.txt` changes -/
def demoTree : Fs.Tree :=
  [([b!"a.txt"], .file b!"foo" 420), ([b!".git"], .dir 493), ([b!".git", b!"config"], .file b!"foo" 420),
   ([b!"foo"], .dir 493), ([b!"foo", b!"x"], .file b!"1" 420), ([b!"ln"], .link b!"a.txt")]
def demoPlan : Apply.Plan :=
  { hunks := [{ file := [b!"a.txt"], before := b!"foo", after := b!"bar", start := 0, stop := 3 }],
    rens := [{ path := [b!"foo"], newPath := [b!"bar"], kind := .dir }] }
example : ApplyFrame.planned demoPlan [b!".git", b!"config"] = false ∧ ApplyFrame.planned demoPlan [b!"ln"] = false := by decide +kernel
example : (Apply.applyPlan demoTree demoPlan).outcome = .ok ∧
    Fs.lookup (Apply.applyPlan demoTree demoPlan).tree [b!"a.txt"] = some (.file b!"bar" 420) ∧
    Fs.lookup (Apply.applyPlan demoTree demoPlan).tree [b!"bar", b!"x"] = some (.file b!"1" 420) ∧
    Fs.lookup (Apply.applyPlan demoTree demoPlan).tree [b!".git", b!"config"] = some (.file b!"foo" 420) := by decide +kernel

/-! ### Witnesses of the listed findings, under the names KNOWN_FINDINGS.txt uses -/

theorem C09_witness_renamify_dir_scanned :
    Gen.filtersRenamifyDir = true ∨
    ([0, 1, 2, 3].all (fun l => inScope P (bareRequest l) statePlan && inScopeSimple P (bareRequest l) statePlan &&
        renameCandidate P (bareRequest l) statePlan)) = true := renamify_never_or_witness

theorem C09_witness_rgignore_not_honoured :
    rgignoreCellsAgree = true ∨
    [0, 1].map (fun l => inScope P (vendorRequest .rgignore l) vendored) = [true, true] := rgignore_pipeline_or_witness

theorem C09_witness_replace_follows_symlinks :
    Gen.simplePlanFollowsSymlinks = false ∨
    (inScopeSimple P { bareRequest 0 with site := { (bareRequest 0).site with ty := fun _ => .symlink } } linkEntry = true ∧
     inScope P { bareRequest 0 with site := { (bareRequest 0).site with ty := fun _ => .symlink } } linkEntry = false) := simple_symlinks_or_witness

/-- the rename planners never look at content: a binary file whose name carries the term is a rename candidate at every
    level although its content is out of scope below level 3 (strict reading of the property text: a finding) -/
theorem C09_witness_binary_file_renamed :
    [0, 1, 2].all (fun l =>
      renameCandidate P (bareRequest l) { path := [b!"foo_bar_logo.png"], ftype := .file, content := [137] ++ b!"PNG" ++ [0] } &&
      !(inScope P (bareRequest l) { path := [b!"foo_bar_logo.png"], ftype := .file, content := [137] ++ b!"PNG" ++ [0] })) = true := by
  decide +kernel

/-- C09 at full strength over the model. The first three conjuncts are the ones that hang on a flag. -/
def C09_full : Prop :=
  (∀ r e, renamifyName ∈ e.path → outOfScope r e) ∧
  (∀ l, l ≤ 3 → ∀ k, k ≠ .gitExclude → ∀ inGit, doc k l = some (codeHonours k l inGit)) ∧
  (∀ r e, e.ftype = .symlink → inScopeSimple P r e = false) ∧
  (∀ r e, gitName ∈ e.path → outOfScope r e) ∧
  (∀ r e, e.ftype = .symlink → inScope P r e = false)

theorem C09_full_of_flags (h1 : Gen.filtersRenamifyDir = true) (h2 : rgignoreCellsAgree = true)
    (h3 : Gen.simplePlanFollowsSymlinks = false) : C09_full :=
  ⟨renamify_never h1, ignore_files_by_level h2, simple_symlinks_not_scanned h3, git_never, symlinks_not_scanned⟩

end C09
