import RModel.Base.Lit
import RModel.Model.Exec
import RModel.Lemmas.Exec
import RModel.Lemmas.ExecRollback
/-
  C11 — A crash at any instant leaves a consistent, usable workspace.   (property theorems only)

  Model: RModel/Model/Exec.lean.  A crash is `Inj.crashBefore k | crashAfter k | crashMid k` (SIGKILL before the
  k-th mutating call, after it, after half of the bytes of a write).  Every theorem that mentions a state `s : St`
  holds for every `s.inj` and every counter `s.n`, i.e. for every k and every mode at once (and, since `fail k e`
  is an injection spec too, for every reported I/O error as well); proofs are structural inductions (`ExecL.Safe`).

  `C11_full` (every kill point of `apply` leaves a usable workspace) is not proved as one statement; the phase
  theorems say what holds of each phase.  Its refutation `C11_full_false` and the window witnesses
  (`C11_witness_history_trunc`, `…_mid`, `C11_witness_undo_inplace`) are kernel-evaluated under the hypothesis that
  `History::save` resp. `apply_single_patch` writes in place (`ExecFlags.atomicHistorySave = false`,
  `ExecFlags.undoViaTemp = false`).  Both flags are `true` for the source as translate/execflags.py reads it, so
  these theorems say nothing about it; they say what comes back if a flag flips.
-/
namespace C11
open Fs Apply Exec ExecL

/-- history.json (if there is one) parses and still starts with the earlier entries -/
def HistoryOk (old : Bytes) (t : Tree) : Prop := histParses t = true ∧ old.isPrefixOf (loadHist t) = true

/-- the leftover lock state lets `LockFile::acquire` succeed -/
def LockOk (t : Tree) : Prop := acquirable t = true

/-- the workspace is usable: every file of `orig` holds its complete old or complete planned content (`Whole`),
    the history parses and retains the earlier entries, the next locking command is not blocked -/
def Usable (orig : Tree) (hs : List Hunk) (old : Bytes) (t : Tree) : Prop :=
  Whole orig hs t ∧ HistoryOk old t ∧ LockOk t

/-- the freshness guard of the content phase: the temp names are not in use -/
def TmpFresh (orig : Tree) (files : List Path) : Prop :=
  ∀ f ∈ files, (∀ g ∈ files, g ≠ tmpPath f) ∧ ∀ c m, lookup orig (tmpPath f) ≠ some (.file c m)

/-- content_edit_atomic: at EVERY crash prefix of the content phase (and after every reported error, and at its
    normal end) every file is whole — untouched, or holding the complete planned content — for all plans and trees -/
theorem content_edit_atomic (orig : Tree) (hs : List Hunk) (cfg : Cfg) (files : List Path)
    (hnd : files.Nodup) (hfresh : TmpFresh orig files) (s : St) (hstart : s.t = orig) :
    Whole orig hs (contentLoop cfg hs files s).st.t :=
  (safe_contentLoop ExecFlags.tempRemovedOnFailure orig hs cfg files hnd hfresh).final s
    (hstart ▸ ⟨fun _ _ _ hp => Or.inl hp, fun _ _ => rfl⟩)

/-- the same, spelled out for the three crash modes at an arbitrary call index k -/
theorem content_edit_atomic_crash (orig : Tree) (hs : List Hunk) (cfg : Cfg) (files : List Path)
    (hnd : files.Nodup) (hfresh : TmpFresh orig files) (k : Nat) :
    Whole orig hs (contentLoop cfg hs files { t := orig, inj := .crashBefore k }).st.t ∧
    Whole orig hs (contentLoop cfg hs files { t := orig, inj := .crashAfter k }).st.t ∧
    Whole orig hs (contentLoop cfg hs files { t := orig, inj := .crashMid k }).st.t :=
  ⟨content_edit_atomic orig hs cfg files hnd hfresh _ rfl, content_edit_atomic orig hs cfg files hnd hfresh _ rfl,
   content_edit_atomic orig hs cfg files hnd hfresh _ rfl⟩

/-- rename_phase_crash_ok: at EVERY crash prefix of the rename phase, its rollback included, no node (content and
    mode of a file, mode of a directory) has been altered; the only way to lose one is a rename onto an occupied
    destination, which makes the tree strictly shorter (excluded by the pre-flight, C05) -/
theorem rename_phase_crash_ok (orig : Tree) (cfg : Cfg) (rs : List Ren) (perf : List (Path × Path)) (s : St)
    (hstart : NodesKept orig s.t) : NodesKept orig (renameLoop cfg perf rs s).st.t :=
  (safe_renameLoop (I := NodesKept orig) (fun _ _ _ _ _ _ => nodesKept_rename) cfg _ rs perf []).final s hstart

/-- … so when nothing was overwritten, every file is intact (same list of nodes) wherever the crash happened -/
theorem rename_phase_nodes_intact (orig : Tree) (cfg : Cfg) (rs : List Ren) (perf : List (Path × Path)) (s : St)
    (hstart : s.t = orig) (hlen : (renameLoop cfg perf rs s).st.t.length = orig.length) :
    nodes (renameLoop cfg perf rs s).st.t = nodes orig := by
  rcases rename_phase_crash_ok orig cfg rs perf s (by rw [hstart]; exact Or.inl rfl) with h | h
  · exact h
  · omega

/-- the history window is EXACT: while the in-place `History::save` (`saveHistF false`) runs on an existing history
    file, under every fault and crash point the file holds the old bytes, the complete new bytes, or — only between
    `open(O_TRUNC)` and the end of the `write` — nothing / the first half -/
theorem history_window_exact (entry : UInt8) (c0 : Bytes) (m0 : Nat) (s : St)
    (h0 : lookup s.t pHist = some (.file c0 m0)) :
    HistStates c0 (encodeHist ((parseHist c0).getD [] ++ [entry])) (saveHistF false entry s).st.t :=
  (safe_saveHist_inPlace entry c0 m0).final s h0

/-- crash_prefix_partial (history): outside the window — the file holds the old or the complete new bytes — the
    history parses and retains every earlier entry -/
theorem crash_prefix_partial_history (entry : UInt8) (es : Bytes) (c : Bytes) (m : Nat) (t : Tree)
    (hl : lookup t pHist = some (.file c m))
    (hout : c = encodeHist es ∨ c = encodeHist (es ++ [entry])) : HistoryOk es t := by
  unfold HistoryOk histParses loadHist
  rw [hl]
  rcases hout with rfl | rfl <;> simp [parseHist_encode]

/-- the repaired `History::save` (`saveHistF true`: temp file, explicit flush, rename) has NO window: under every
    fault and crash point the history parses and retains every earlier entry -/
theorem history_atomic_no_window (entry : UInt8) (es : Bytes) (m0 : Nat) (s : St)
    (h0 : lookup s.t pHist = some (.file (encodeHist es) m0)) :
    HistoryOk es (saveHistF true entry s).st.t := by
  have hst := (safe_saveHist_atomic entry (encodeHist es) m0).final s h0
  rw [parseHist_encode] at hst
  rcases hst with ⟨m, hl⟩ | ⟨m, hl⟩
  · exact crash_prefix_partial_history entry es _ m _ hl (Or.inl rfl)
  · exact crash_prefix_partial_history entry es _ m _ hl (Or.inr rfl)

/-- crash_prefix_partial (content phase): a crash anywhere in the content phase leaves the files whole AND the
    history exactly as it was, provided the plan does not edit `.renamify/history.json` itself -/
theorem crash_prefix_partial_content (orig : Tree) (hs : List Hunk) (cfg : Cfg) (files : List Path)
    (hnd : files.Nodup) (hfresh : TmpFresh orig files) (s : St) (hstart : s.t = orig)
    (c0 : Bytes) (m0 : Nat) (hh : lookup orig pHist = some (.file c0 m0)) (hno : ∀ h ∈ hs, h.file ≠ pHist) :
    Whole orig hs (contentLoop cfg hs files s).st.t ∧
    lookup (contentLoop cfg hs files s).st.t pHist = some (.file c0 m0) := by
  have hw := content_edit_atomic orig hs cfg files hnd hfresh s hstart
  refine ⟨hw, ?_⟩
  rcases hw pHist c0 m0 hh with h | ⟨c', hc', h⟩
  · exact h
  · have hed : editsFor hs pHist = [] := by
      unfold editsFor
      rw [List.map_eq_nil_iff, List.filter_eq_nil_iff]
      intro h hm
      simpa using hno h hm
    rw [hed] at hc'
    -- no edits: `applyEdits c0 [] = .ok c0` by computation
    cases (hc' : Except.ok c0 = Except.ok c')
    exact h

/-- lock_never_observed_partial: `acquire` in the publish-by-hard-link variant (repo commit 35d666f), at EVERY crash
    prefix and after every injected error: the lock path holds what it held before the command, nothing, or the
    COMPLETE content — never an empty or half-written file.  (`l0` is arbitrary: also a leftover of an older version.) -/
theorem lock_never_observed_partial (stale cleans : Bool) (s : St) :
    LockStates (lookup s.t pLock) (acquireF true stale cleans s).st.t :=
  (safe_acquire_link stale cleans (lookup s.t pLock)).final s rfl

/-- … and each of these states lets the next `acquire` go ahead when a file that is not `pid:timestamp` is treated as
    abandoned (`stale = true`, the code as it is): `lock_empty_window` cannot occur -/
theorem lock_states_acquirable (l0 : Option Node) (t : Tree) (h : LockStates l0 t)
    (h0 : l0 = none ∨ ∃ c m, l0 = some (.file c m)) : acquirableF true t = true := by
  unfold acquirableF
  rcases h with h | h | ⟨m, h⟩
  · rw [h]
    rcases h0 with h0 | ⟨c, m, h0⟩
    · rw [h0]
    · rw [h0]; simp
  · rw [h]
  · rw [h]; simp

/-- leftover_temp_never_blocks: in the shape the code has (`File::create`: truncating open of the temp file), a file
    that a killed process left at the temp name — empty, half written, complete — never makes a later content edit of the
    same target fail: from any quiet state the atomic replace ends NORMALLY (no error, no crash), the target holds the
    complete new content and the temp name is free again. -/
theorem leftover_temp_never_blocks (f : Path) (c c' x : Bytes) (m mx : Nat) (hne : tmpPath f ≠ f) (s : St)
    (hq : Quiet s) (hl : lookup s.t (tmpPath f) = some (.file x mx)) (hf : lookup s.t f = some (.file c m))
    (hp : parentOk s.t (tmpPath f) = .ok ()) :
    ∃ s', replaceFileX false f c' m s = .ok () s' ∧ lookup s'.t f = some (.file c' m) ∧
      lookup s'.t (tmpPath f) = none := by
  have h := replaceFile_leftover f c c' x m mx hne s ⟨hq, rfl, Nat.le_refl _⟩ ⟨hl, hf, hp⟩
  revert h
  cases replaceFileX false f c' m s with
  | ok a s' => exact fun h => ⟨s', rfl, h.2⟩
  | err e s' => exact fun h => h.2.elim
  | crash s' => exact fun h => h.elim

/-- the code opens the temp file with a truncating create and names it per process: either property alone already keeps a
    killed run's leftover from blocking the next one (`leftoverBlocks` is false); read from the source by
    translate/execflags.py — a fixed name together with `create_new` (seeded/C11d) flips this -/
theorem temp_file_flags : ExecFlags.tempOpenExclusive = false ∧ ExecFlags.tempNamePerPid = true := by decide

/-- the flags the model is built with at the code as it is (read from the source by translate/execflags.py) -/
theorem lock_flags : ExecFlags.publishByLink = true ∧ ExecFlags.emptyLockIsStale = true := by decide

def meta0 : Tree :=
  [ ([dotR], .dir 0o755), (pHist, .file (encodeHist [entryOld]) 0o644), (pPlanJson, .file blob 0o644) ]
def tA : Tree := [ ([b!"a.txt"], .file b!"foo" 0o644), ([b!"b.txt"], .file b!"foo" 0o600) ] ++ meta0
def plA : Plan :=
  { hunks := [ { file := [b!"a.txt"], before := b!"foo", after := b!"bar", start := 0, stop := 3 },
               { file := [b!"b.txt"], before := b!"foo", after := b!"bar", start := 0, stop := 3 } ], rens := [] }
/-- the state a completed `apply` of `plA` leaves (user part), on which `undo` runs -/
def tApplied : Tree :=
  [ ([b!"a.txt"], .file b!"bar" 0o644), ([b!"b.txt"], .file b!"bar" 0o600) ] ++
  [ ([dotR], .dir 0o755), (pHist, .file (encodeHist [entryOld, entryApply]) 0o644) ]
def restoreA : List (Path × Bytes) := [ ([b!"a.txt"], b!"foo"), ([b!"b.txt"], b!"foo") ]

/-- the property at full strength: whatever the kill point of `apply`, the workspace is usable.
    It fails when `History::save` writes in place (`C11_full_false`, the shape of the source before repo commit
    e12ff90); for the source as it is, where `ExecFlags.atomicHistorySave = true`, it is neither proved nor refuted as
    one statement — see the phase theorems above. -/
def C11_full : Prop :=
  ∀ (plan : Plan) (t : Tree) (inj : Inj),
    Usable t plan.hunks (loadHist t) (run (bodyApply plan) t inj).st.t

/-- finding history_trunc_window: SIGKILL right after `openw history.json` (call 29): the file is empty, does not
    parse, and the next load starts an empty history — the earlier entry `O` is lost -/
theorem C11_witness_history_trunc : ExecFlags.atomicHistorySave = false →
    outcome (run (bodyApply plA) tA (.crashAfter 29)) = .crashed ∧
    histParses (run (bodyApply plA) tA (.crashAfter 29)).st.t = false ∧
    loadHist (run (bodyApply plA) tA (.crashAfter 29)).st.t = [] ∧ loadHist tA = [entryOld] := by decide +kernel

/-- … and the same in the middle of the write (call 30): half of the bytes do not parse either -/
theorem C11_witness_history_trunc_mid : ExecFlags.atomicHistorySave = false →
    histParses (run (bodyApply plA) tA (.crashMid 30)).st.t = false ∧
    histParses (run (bodyApply plA) tA (.crashBefore 30)).st.t = false ∧
    histParses (run (bodyApply plA) tA (.crashAfter 30)).st.t = true := by decide +kernel

/-- lock_empty_window, the shape `acquire` had BEFORE repo commit 35d666f (`acquireF false false false`: create_new, then
    write): SIGKILL right after `openw renamify.lock` (call 1) leaves an EMPTY lock file, and that `acquire` can
    never succeed again -/
theorem lock_empty_window_before_35d666f :
    outcome (run (acquireF false false false) (tA.take 2) (.crashAfter 1)) = .crashed ∧
    lookup (run (acquireF false false false) (tA.take 2) (.crashAfter 1)).st.t pLock = some (.file [] 0o644) ∧
    acquirableF false (run (acquireF false false false) (tA.take 2) (.crashAfter 1)).st.t = false ∧
    outcome (run (acquireF false false false) (run (acquireF false false false) (tA.take 2) (.crashAfter 1)).st.t .none)
      = .fail := by decide +kernel

/-- … and the code as it is on the same scenario: whatever the kill point (here: after each of the five calls of
    `acquire`), the lock is absent or complete, a leftover `renamify.lock.<pid>.tmp` does not matter, and the next
    `acquire` succeeds -/
theorem lock_link_example :
    (∀ k ∈ [0, 1, 2, 3, 4],
      (lookup (run acquire (tA.take 2) (.crashAfter k)).st.t pLock = none ∨
       lookup (run acquire (tA.take 2) (.crashAfter k)).st.t pLock = some (.file lockText 0o644)) ∧
      outcome (run acquire (run acquire (tA.take 2) (.crashAfter k)).st.t .none) = .ok) ∧
    lookup (run acquire (tA.take 2) (.crashAfter 2)).st.t pLockTmp = some (.file lockText 0o644) := by
  decide +kernel

/-- what `create_new` on a FIXED temp name does to the next run (the shape of seeded/C11d): the leftover of a run killed
    right after the temp file was created (here: the empty file) makes the same edit fail with EEXIST — for ever, since the
    failing call did not create the file and does not remove it -/
theorem leftover_temp_blocks_with_create_new :
    outcome (run (replaceFileX true [b!"a.txt"] b!"bar" 0o644)
      ([ ([b!"a.txt"], .file b!"foo" 0o644), (tmpPath [b!"a.txt"], .file [] 0o644) ]) .none) = .fail ∧
    outcome (run (replaceFileX false [b!"a.txt"] b!"bar" 0o644)
      ([ ([b!"a.txt"], .file b!"foo" 0o644), (tmpPath [b!"a.txt"], .file [] 0o644) ]) .none) = .ok := by decide +kernel

/-- finding undo_inplace_truncation: `undo` rewrites user files in place; SIGKILL right after `openw a.txt` (call 0)
    leaves `a.txt` EMPTY — neither the old nor the new content -/
theorem C11_witness_undo_inplace : ExecFlags.undoViaTemp = false →
    outcome (run (bodyUndo plA restoreA) tApplied (.crashAfter 0)) = .crashed ∧
    lookup (run (bodyUndo plA restoreA) tApplied (.crashAfter 0)).st.t [b!"a.txt"] = some (.file [] 0o644) := by
  decide +kernel

theorem C11_full_false : ExecFlags.atomicHistorySave = false → ¬ C11_full := by
  intro hf h
  have := (h plA tA (.crashAfter 29)).2.1.1
  change histParses (run (bodyApply plA) tA (.crashAfter 29)).st.t = true at this
  have h2 := (C11_witness_history_trunc hf).2.1
  rw [h2] at this
  cases this

/-- non-vacuity: the guards of `content_edit_atomic` hold on the scenario, and a mid-write kill of the temp file
    (call 6) indeed leaves a half-written TEMP file next to an intact `a.txt` -/
theorem content_edit_atomic_example :
    (sortedFiles plA.hunks).Nodup ∧
    lookup (run (bodyApply plA) tA (.crashMid 6)).st.t [b!"a.txt"] = some (.file b!"foo" 0o644) ∧
    lookup (run (bodyApply plA) tA (.crashMid 6)).st.t (tmpPath [b!"a.txt"]) = some (.file b!"b" 0o644) := by
  decide +kernel

end C11
