import RModel.Lemmas.C20Table
/-
  C20 — Every command line the wrappers build is accepted by the CLI.

  `Cli.accepts`        Lean model of clap's parser on the grammar generated from args.rs / types.rs
  `Wrap.build b v`     the argv builder `b` (generated from the TypeScript sources) applied to options `v`
  `Wrap.okFor g b v`   the argv is accepted AND the parse result is exactly what the option object calls for
                       (`Wrap.means`: the subcommand, positionals exactly the given terms and paths, every
                        pushed flag set, every pushed option holding exactly the given values, and
                        `Wrap.untouched`: every other argument of the subcommand and every global at its
                        default -- so a flag that the parser swallows as a path is a failure even though
                        clap exits 0)
  `Wrap.enumerate b`   every subset of the optional fields x representative values, plus hostile values
  `Wrap.knownBad`      every defect ever found: (wrapper, builder, field[, value]) combinations
  `live`               the slugs of the `knownBad` entries that reproduce on the CURRENT sources: generated
                       (`Gen/WrappersVerdict.lean`, translate/wrappers_verdict.py) and re-derived here by
                       kernel evaluation (`verdict_exact`).  The guard consists of those entries only, so
                       this file compiles unchanged before and after the wrappers are repaired:
                         before:  `live` has 21 entries, `C20_partial` is the guarded property, each
                                  `C20_witness_<slug>` exhibits its finding, `C20_full_false` refutes `C20_full`;
                         after:   `live = []`, the guard is empty, `C20_full_on_core` gives the property at
                                  full strength on the evaluated space, the witnesses hold vacuously
                                  (their entry is not in force).

  Full statement: `C20_full`.  Guarded statement over the whole enumerated space: `C20_guarded`.
  NOT proved here (either world): the step from the kernel-evaluated part `space b = Wrap.core live b` to
  the whole `Wrap.enumerate b` (~4·10^4 parses; hours in the kernel).  That part is *executed* on every run
  (compiled model, all cases, compared case by case with the real clap parser; checks/c20.py) and listed
  as an open statement in the evidence.  Missing lemma: independence of option segments,
      run args poss [] st (seg₁ ++ seg₂ ++ rest) = run args poss [] (feed (feed st seg₁) seg₂) rest
  with `feed` commuting for distinct non-conflicting arguments (reduces the 2^n subsets to n facts).
  Proved by kernel evaluation (`decide +kernel`, no `native_decide`; the table itself in Lemmas/C20Table.lean): on `space b` — for the small
  builders the whole enumerated space; for the large ones: nothing set, every field alone with each
  representative, every hostile value, the field combinations named in `knownBad`, and per value
  profile the two maximal combinations outside the guard — the guard is exact: outside it the command
  line is accepted with the intended meaning, inside it it is not.
-/
namespace C20
open Wrap Cli

/-- The property at full strength. -/
def C20_full : Prop :=
  ∀ b ∈ Gen.Wrappers.builders, ∀ v ∈ enumerate b, okFor G b v = true

/-- The property for every enumerated valuation outside the guard.  Executed exhaustively by the check
    on every run, not proved (see the header). -/
def C20_guarded : Prop :=
  ∀ b ∈ Gen.Wrappers.builders, ∀ v ∈ enumerate b, guard b v = false → okFor G b v = true

/-- the generated verdict is what the model computes: exactly the `knownBad` entries for which some probed
    valuation falls under this entry (and no other that names a field) and has its command line rejected
    or misread -/
theorem verdict_exact : liveSlugsOf G Gen.Wrappers.builders = live := by
  rw [liveSlugsOf, probe_eq]; decide +kernel

/-- C20 on the kernel-evaluated part of the space: whatever stays outside the guard is accepted by the
    CLI's parser with the intended meaning. -/
theorem C20_partial :
    ∀ b ∈ Gen.Wrappers.builders, ∀ v ∈ space b, guard b v = false → okFor G b v = true := by
  intro b hb v hv hbad
  have h := List.all_eq_true.mp (List.all_eq_true.mp table b hb) v hv
  simp [rowOk, hbad] at h
  exact h

/-- The meaning clause spelled out: outside the guard the parser returns a result `p` in which every
    expectation derived from the option object holds and nothing else is set. -/
theorem C20_meaning :
    ∀ b ∈ Gen.Wrappers.builders, ∀ v ∈ space b, guard b v = false →
      ∃ p, accepts G (build b v) = .ok p ∧
        (intent b v).all (holds G p) = true ∧ untouched G p (intent b v) = true := by
  intro b hb v hv hg
  have h := C20_partial b hb v hv hg
  unfold okFor at h
  split at h
  · rename_i p hp
    exact ⟨p, hp, by simpa [means, Bool.and_eq_true] using h⟩
  · cases h

/-- The guard is exact there: every excluded valuation really fails (rejected, or accepted with another
    meaning), so it hides nothing that works. -/
theorem C20_knownBad_exact :
    ∀ b ∈ Gen.Wrappers.builders, ∀ v ∈ space b, guard b v = true → okFor G b v = false := by
  intro b hb v hv hbad
  have h := List.all_eq_true.mp (List.all_eq_true.mp table b hb) v hv
  simp [rowOk, hbad] at h
  exact h

theorem guard_empty (h : live = []) (b : Builder) (v : Valuation) : guard b v = false := by
  unfold guard usesBad liveBad
  rw [h]
  simp [anyIs]

/-- Once every finding is repaired (`live = []`, a generated fact re-derived by `verdict_exact`) the
    property holds at full strength on the evaluated space: every builder, every option valuation there,
    is accepted by the parser with the intended meaning. -/
theorem C20_full_on_core (h : live = []) :
    ∀ b ∈ Gen.Wrappers.builders, ∀ v ∈ space b, okFor G b v = true :=
  fun b hb v hv => C20_partial b hb v hv (guard_empty h b v)

-- witnesses: one per `knownBad` entry that has a finding in KNOWN_FINDINGS.txt (the two `mcp-preview-*-comma` entries arise
-- only from a partial repair of the wrappers and have none)
-- Each states, for an entry that is in force: (1) some valuation of the evaluated space makes the builder
-- produce exactly this argv and (2) what clap's parser (the model, compared with the real one on every
-- run) answers.  For an entry that is no longer in force the statement is vacuous.

/-- values an accepted command line gives to argument `id` of its subcommand -/
def parsedVals (argv : List Str) (id : Str) : Option Val :=
  match accepts G argv with
  | .ok p => lookup p.args id
  | .error _ => none

/-- `mcp-search-styles`: `renamify search old_name --styles snake` -/
theorem C20_witness_mcp_search_styles : inForce t!"mcp-search-styles" = true →
    (∃ v ∈ space Gen.Wrappers.mcp_buildSearchArgs, build Gen.Wrappers.mcp_buildSearchArgs v = [t!"search", t!"old_name", t!"--styles", t!"snake"]) ∧
    accepts G [t!"search", t!"old_name", t!"--styles", t!"snake"] = .error .unknownArgument := by
  rw [space_eq]; decide +kernel

/-- `mcp-search-dry-run`: `renamify search old_name --dry-run` -/
theorem C20_witness_mcp_search_dry_run : inForce t!"mcp-search-dry-run" = true →
    (∃ v ∈ space Gen.Wrappers.mcp_buildSearchArgs, build Gen.Wrappers.mcp_buildSearchArgs v = [t!"search", t!"old_name", t!"--dry-run"]) ∧
    accepts G [t!"search", t!"old_name", t!"--dry-run"] = .error .unknownArgument := by
  rw [space_eq]; decide +kernel

/-- `mcp-search-no-rename-files`: `renamify search old_name --no-rename-files` -/
theorem C20_witness_mcp_search_no_rename_files : inForce t!"mcp-search-no-rename-files" = true →
    (∃ v ∈ space Gen.Wrappers.mcp_buildSearchArgs, build Gen.Wrappers.mcp_buildSearchArgs v = [t!"search", t!"old_name", t!"--no-rename-files"]) ∧
    accepts G [t!"search", t!"old_name", t!"--no-rename-files"] = .error .unknownArgument := by
  rw [space_eq]; decide +kernel

/-- `mcp-search-no-rename-dirs`: `renamify search old_name --no-rename-dirs` -/
theorem C20_witness_mcp_search_no_rename_dirs : inForce t!"mcp-search-no-rename-dirs" = true →
    (∃ v ∈ space Gen.Wrappers.mcp_buildSearchArgs, build Gen.Wrappers.mcp_buildSearchArgs v = [t!"search", t!"old_name", t!"--no-rename-dirs"]) ∧
    accepts G [t!"search", t!"old_name", t!"--no-rename-dirs"] = .error .unknownArgument := by
  rw [space_eq]; decide +kernel

/-- `mcp-search-atomic-search`: `renamify search old_name --atomic-search` -/
theorem C20_witness_mcp_search_atomic_search : inForce t!"mcp-search-atomic-search" = true →
    (∃ v ∈ space Gen.Wrappers.mcp_buildSearchArgs, build Gen.Wrappers.mcp_buildSearchArgs v = [t!"search", t!"old_name", t!"--atomic-search"]) ∧
    accepts G [t!"search", t!"old_name", t!"--atomic-search"] = .error .unknownArgument := by
  rw [space_eq]; decide +kernel

/-- `mcp-leading-hyphen`: `renamify search -x` -/
theorem C20_witness_mcp_leading_hyphen : inForce t!"mcp-leading-hyphen" = true →
    (∃ v ∈ space Gen.Wrappers.mcp_buildSearchArgs, build Gen.Wrappers.mcp_buildSearchArgs v = [t!"search", t!"-x"]) ∧
    accepts G [t!"search", t!"-x"] = .error .unknownArgument := by
  rw [space_eq]; decide +kernel

/-- `mcp-search-includes-comma`: `renamify search old_name --include a,b` is accepted, but the single pattern arrives as two -/
theorem C20_witness_mcp_search_includes_comma : inForce t!"mcp-search-includes-comma" = true →
    (∃ v ∈ space Gen.Wrappers.mcp_buildSearchArgs, build Gen.Wrappers.mcp_buildSearchArgs v = [t!"search", t!"old_name", t!"--include", t!"a,b"] ∧ okFor G Gen.Wrappers.mcp_buildSearchArgs v = false) ∧
    parsedVals [t!"search", t!"old_name", t!"--include", t!"a,b"] t!"include" = some (.vals [t!"a", t!"b"]) := by
  rw [space_eq]; decide +kernel

/-- `mcp-search-excludes-comma`: `renamify search old_name --exclude a,b` is accepted, but the single pattern arrives as two -/
theorem C20_witness_mcp_search_excludes_comma : inForce t!"mcp-search-excludes-comma" = true →
    (∃ v ∈ space Gen.Wrappers.mcp_buildSearchArgs, build Gen.Wrappers.mcp_buildSearchArgs v = [t!"search", t!"old_name", t!"--exclude", t!"a,b"] ∧ okFor G Gen.Wrappers.mcp_buildSearchArgs v = false) ∧
    parsedVals [t!"search", t!"old_name", t!"--exclude", t!"a,b"] t!"exclude" = some (.vals [t!"a", t!"b"]) := by
  rw [space_eq]; decide +kernel

/-- `mcp-plan-styles`: `renamify plan old_name new_name --styles snake` -/
theorem C20_witness_mcp_plan_styles : inForce t!"mcp-plan-styles" = true →
    (∃ v ∈ space Gen.Wrappers.mcp_buildPlanArgs, build Gen.Wrappers.mcp_buildPlanArgs v = [t!"plan", t!"old_name", t!"new_name", t!"--styles", t!"snake"]) ∧
    accepts G [t!"plan", t!"old_name", t!"new_name", t!"--styles", t!"snake"] = .error .unknownArgument := by
  rw [space_eq]; decide +kernel

/-- `mcp-plan-includes-comma`: `renamify plan old_name new_name --include a,b` is accepted, but the single pattern arrives as two -/
theorem C20_witness_mcp_plan_includes_comma : inForce t!"mcp-plan-includes-comma" = true →
    (∃ v ∈ space Gen.Wrappers.mcp_buildPlanArgs, build Gen.Wrappers.mcp_buildPlanArgs v = [t!"plan", t!"old_name", t!"new_name", t!"--include", t!"a,b"] ∧ okFor G Gen.Wrappers.mcp_buildPlanArgs v = false) ∧
    parsedVals [t!"plan", t!"old_name", t!"new_name", t!"--include", t!"a,b"] t!"include" = some (.vals [t!"a", t!"b"]) := by
  rw [space_eq]; decide +kernel

/-- `mcp-plan-excludes-comma`: `renamify plan old_name new_name --exclude a,b` is accepted, but the single pattern arrives as two -/
theorem C20_witness_mcp_plan_excludes_comma : inForce t!"mcp-plan-excludes-comma" = true →
    (∃ v ∈ space Gen.Wrappers.mcp_buildPlanArgs, build Gen.Wrappers.mcp_buildPlanArgs v = [t!"plan", t!"old_name", t!"new_name", t!"--exclude", t!"a,b"] ∧ okFor G Gen.Wrappers.mcp_buildPlanArgs v = false) ∧
    parsedVals [t!"plan", t!"old_name", t!"new_name", t!"--exclude", t!"a,b"] t!"exclude" = some (.vals [t!"a", t!"b"]) := by
  rw [space_eq]; decide +kernel

/-- `mcp-apply-plan`: `renamify apply --plan plans/p.json` -/
theorem C20_witness_mcp_apply_plan : inForce t!"mcp-apply-plan" = true →
    (∃ v ∈ space Gen.Wrappers.mcp_buildApplyArgs, build Gen.Wrappers.mcp_buildApplyArgs v = [t!"apply", t!"--plan", t!"plans/p.json"]) ∧
    accepts G [t!"apply", t!"--plan", t!"plans/p.json"] = .error .unknownArgument := by
  rw [space_eq]; decide +kernel

/-- `mcp-preview-preview-only`: `renamify plan --preview-only` -/
theorem C20_witness_mcp_preview_preview_only : inForce t!"mcp-preview-preview-only" = true →
    (∃ v ∈ space Gen.Wrappers.mcp_buildPreviewArgs, build Gen.Wrappers.mcp_buildPreviewArgs v = [t!"plan", t!"--preview-only"]) ∧
    accepts G [t!"plan", t!"--preview-only"] = .error .unknownArgument := by
  rw [space_eq]; decide +kernel

/-- `mcp-rename-preview-json`: `renamify rename old_name new_name --preview json --yes` -/
theorem C20_witness_mcp_rename_preview_json : inForce t!"mcp-rename-preview-json" = true →
    (∃ v ∈ space Gen.Wrappers.mcp_rename, build Gen.Wrappers.mcp_rename v = [t!"rename", t!"old_name", t!"new_name", t!"--preview", t!"json", t!"--yes"]) ∧
    accepts G [t!"rename", t!"old_name", t!"new_name", t!"--preview", t!"json", t!"--yes"] = .error .invalidValue := by
  rw [space_eq]; decide +kernel

/-- `mcp-rename-only-with-exclude-styles`: `renamify rename old_name new_name --exclude-styles snake --only-styles snake --yes` -/
theorem C20_witness_mcp_rename_only_with_exclude_styles : inForce t!"mcp-rename-only-with-exclude-styles" = true →
    (∃ v ∈ space Gen.Wrappers.mcp_rename, build Gen.Wrappers.mcp_rename v = [t!"rename", t!"old_name", t!"new_name", t!"--exclude-styles", t!"snake", t!"--only-styles", t!"snake", t!"--yes"]) ∧
    accepts G [t!"rename", t!"old_name", t!"new_name", t!"--exclude-styles", t!"snake", t!"--only-styles", t!"snake", t!"--yes"] = .error .argumentConflict := by
  rw [space_eq]; decide +kernel

/-- `mcp-rename-only-with-include-styles`: `renamify rename old_name new_name --include-styles snake --only-styles snake --yes` -/
theorem C20_witness_mcp_rename_only_with_include_styles : inForce t!"mcp-rename-only-with-include-styles" = true →
    (∃ v ∈ space Gen.Wrappers.mcp_rename, build Gen.Wrappers.mcp_rename v = [t!"rename", t!"old_name", t!"new_name", t!"--include-styles", t!"snake", t!"--only-styles", t!"snake", t!"--yes"]) ∧
    accepts G [t!"rename", t!"old_name", t!"new_name", t!"--include-styles", t!"snake", t!"--only-styles", t!"snake", t!"--yes"] = .error .argumentConflict := by
  rw [space_eq]; decide +kernel

/-- `mcp-replace-preview-json`: `renamify replace old_name new_name --preview json --yes` -/
theorem C20_witness_mcp_replace_preview_json : inForce t!"mcp-replace-preview-json" = true →
    (∃ v ∈ space Gen.Wrappers.mcp_replace, build Gen.Wrappers.mcp_replace v = [t!"replace", t!"old_name", t!"new_name", t!"--preview", t!"json", t!"--yes"]) ∧
    accepts G [t!"replace", t!"old_name", t!"new_name", t!"--preview", t!"json", t!"--yes"] = .error .invalidValue := by
  rw [space_eq]; decide +kernel

/-- `vscode-search-no-rename-paths`: `renamify search old_name --output json --no-rename-paths -u` -/
theorem C20_witness_vscode_search_no_rename_paths : inForce t!"vscode-search-no-rename-paths" = true →
    (∃ v ∈ space Gen.Wrappers.vscode_search, build Gen.Wrappers.vscode_search v = [t!"search", t!"old_name", t!"--output", t!"json", t!"--no-rename-paths", t!"-u"]) ∧
    accepts G [t!"search", t!"old_name", t!"--output", t!"json", t!"--no-rename-paths", t!"-u"] = .error .unknownArgument := by
  rw [space_eq]; decide +kernel

/-- `vscode-search-atomic-search`: `renamify search old_name --output json --atomic-search -u` -/
theorem C20_witness_vscode_search_atomic_search : inForce t!"vscode-search-atomic-search" = true →
    (∃ v ∈ space Gen.Wrappers.vscode_search, build Gen.Wrappers.vscode_search v = [t!"search", t!"old_name", t!"--output", t!"json", t!"--atomic-search", t!"-u"]) ∧
    accepts G [t!"search", t!"old_name", t!"--output", t!"json", t!"--atomic-search", t!"-u"] = .error .unknownArgument := by
  rw [space_eq]; decide +kernel

/-- `vscode-leading-hyphen`: `renamify search -x --output json -u` -/
theorem C20_witness_vscode_leading_hyphen : inForce t!"vscode-leading-hyphen" = true →
    (∃ v ∈ space Gen.Wrappers.vscode_search, build Gen.Wrappers.vscode_search v = [t!"search", t!"-x", t!"--output", t!"json", t!"-u"]) ∧
    accepts G [t!"search", t!"-x", t!"--output", t!"json", t!"-u"] = .error .unknownArgument := by
  rw [space_eq]; decide +kernel

/-- `vscode-apply-id`: `renamify apply --output json --id abc123` -/
theorem C20_witness_vscode_apply_id : inForce t!"vscode-apply-id" = true →
    (∃ v ∈ space Gen.Wrappers.vscode_apply, build Gen.Wrappers.vscode_apply v = [t!"apply", t!"--output", t!"json", t!"--id", t!"abc123"]) ∧
    accepts G [t!"apply", t!"--output", t!"json", t!"--id", t!"abc123"] = .error .unknownArgument := by
  rw [space_eq]; decide +kernel

/-- while the VS Code `apply --id` finding is in force the full-strength property is false -/
theorem C20_full_false : inForce t!"vscode-apply-id" = true → ¬ C20_full := by
  intro hl h
  have key : inForce t!"vscode-apply-id" = true →
      okFor G Gen.Wrappers.vscode_apply [.str t!"abc123"] = false := by decide +kernel
  have h1 := h Gen.Wrappers.vscode_apply (by decide +kernel) [.str t!"abc123"] (by decide +kernel)
  rw [key hl] at h1
  cases h1

/-- the guard is satisfiable by a non-trivial valuation: VS Code `rename` with every option that pushes
    something set at once (at least 14 tokens) stays outside the guard, and that command line is
    accepted with the intended meaning -/
example :
    let b := Gen.Wrappers.vscode_rename
    let v := greedy live b 0 (List.range b.fields.length)
    guard b v = false ∧ okFor G b v = true ∧ 14 ≤ (build b v).length := by decide +kernel

/-- the same for the MCP `plan` builder -/
example :
    let b := Gen.Wrappers.mcp_buildPlanArgs
    let v := greedy live b 0 (List.range b.fields.length)
    guard b v = false ∧ okFor G b v = true ∧ 14 ≤ (build b v).length := by decide +kernel

/-- the model is not vacuous about rejection either: `--` makes a leading-hyphen term acceptable -/
example : accepted G [t!"search", t!"--", t!"-x"] = true ∧ accepted G [t!"search", t!"-x"] = false := by decide +kernel

/-- every builder has cases in the evaluated space -/
example : Gen.Wrappers.builders.all (fun b => !(space b).isEmpty) = true := by
  rw [space_eq]; decide +kernel

end C20
