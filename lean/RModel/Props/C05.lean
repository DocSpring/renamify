import RModel.Base.Lit
import RModel.Model.Fs
import RModel.Model.Apply
import RModel.Lemmas.RenamePhase
import RModel.Props.C02ren
/-
  C05 — Renaming never overwrites or loses existing files.

  (1) Refusal by the pre-flight, for every tree and plan, with the tree untouched: an occupied destination (repo commit
  "fix: refuse to apply when a rename destination already exists"), a shared destination (repo commit 01297aa), chains
  and cycles; (2) whenever the destination of a rename is free, rename(2) as used by `perform_rename` keeps every node,
  and so does every successful apply, with no hypothesis about destinations; (3) why the pre-flight is needed: the rename
  phase alone silently replaces an occupant (kernel-evaluated witnesses: what the whole command did before the first of
  those commits).
-/
namespace C05
open Fs Apply

/-- the multiset of nodes (content+mode / dir mode / link target), in list order -/
def nodes (t : Tree) : List Node := t.map (·.2)

/-- A rename onto a free destination keeps every node of the tree: nothing is overwritten or lost. -/
theorem rename_free_keeps_nodes (t t' : Tree) (a b : Path)
    (h : rename t a b = .ok t') (hfree : lookup t b = none) : nodes t' = nodes t := by
  obtain ⟨-, -, ⟨_, rfl⟩ | ⟨_, -, rfl⟩⟩ := RenamePhase.rename_ok h
  · rfl
  · rw [if_pos hfree, nodes, List.map_map]; rfl

/-- An occupied destination always loses a node or is refused: the tree that comes out of a
    successful rename onto an existing path has strictly fewer nodes. -/
theorem rename_occupied_loses (t t' : Tree) (a b : Path) (nb : Node)
    (h : rename t a b = .ok t') (hab : (a == b) = false) (hocc : lookup t b = some nb) :
    t'.length < t.length := by
  obtain ⟨-, -, ⟨he, _⟩ | ⟨_, -, rfl⟩⟩ := RenamePhase.rename_ok h
  · exact absurd (beq_iff_eq.2 he) (Bool.eq_false_iff.1 hab)
  · rw [if_neg (hocc ▸ Option.some_ne_none nb), List.length_map]
    exact RenamePhase.removeKey_length_lt hocc

/-- every destination is free at the moment its rename executes (follows the execution) -/
def allFree : Tree → List (Path × Path) → List Ren → Bool
  | _, _, [] => true
  | t, perf, r :: rs =>
    let af := rebase perf r.path
    let at' := rebase perf r.newPath
    (lookup t at').isNone &&
    match renameTS t af (trailingSlash perf r.path) at' (trailingSlash perf r.newPath) with
    | .ok t' => allFree t' (perf ++ [(r.path, at')]) rs
    | .error _ => true

/-- Rename phase: along an execution whose destinations are all free, a successful run keeps every
    node — any number of renames, any nesting. -/
theorem renamePhase_free_keeps_nodes (t : Tree) (perf : List (Path × Path)) (rs : List Ren)
    (hfree : allFree t perf rs = true) (hok : (renamePhase t perf rs).outcome = .ok) :
    nodes (renamePhase t perf rs).tree = nodes t := by
  induction rs generalizing t perf with
  | nil => rfl
  | cons r rs ih =>
    rw [allFree, Bool.and_eq_true, Option.isNone_iff_eq_none] at hfree
    obtain ⟨hnone, hrest⟩ := hfree
    rcases RenamePhase.renamePhase_cons t perf r rs with ⟨t', hr, heq⟩ | ⟨o, heq, ⟨e, rfl⟩ | ⟨e, rfl⟩⟩
    · rw [heq] at hok ⊢
      rw [hr] at hrest
      rw [ih t' _ hrest hok]
      exact rename_free_keeps_nodes t t' _ _ (RenamePhase.rename_of_renameTS hr) hnone
    · rw [heq] at hok; cases hok
    · rw [heq] at hok; cases hok

theorem skipRen_eq_false {r : Ren} (h0 : r.newPath ≠ []) (h1 : r.newPath ≠ r.path) : skipRen r = false :=
  Bool.eq_false_iff.2 fun h => h1 (RenamePhase.eq_of_skipRen h0 h)

/-- C05, refusal clause, at full strength for the whole command: any occupied destination ⇒ refused before
    anything is changed, for every tree and every plan (any number of edits and renames). -/
theorem occupied_refused (t : Tree) (p : Plan)
    (h : ∃ r ∈ p.rens, r.newPath ≠ [] ∧ r.newPath ≠ r.path ∧ (lookup t r.newPath).isSome = true) :
    ((applyPlan t p).outcome = .destExists ∨ (applyPlan t p).outcome = .sharedDest) ∧ (applyPlan t p).tree = t := by
  obtain ⟨r, hr, hne, hnp, hex⟩ := h
  refine RenamePhase.applyPlan_refusal fun hp => Option.isSome_iff_ne_none.1 hex ?_
  exact (RenamePhase.preflight_nil_eq_none_iff.1 hp).1 r hr (skipRen_eq_false hne hnp)

/-- C05 "several sources mapping to one destination": two renames of one plan with the same destination and
    different sources (neither an identity rename) ⇒ refused before anything is changed, for every tree and every
    plan.  (Repo commit 01297aa; `replace 'foo\d' bar` used to turn `foo1.txt` and `foo2.txt` into one `bar.txt`.) -/
theorem shared_destination_refused (t : Tree) (p : Plan)
    (h : ∃ r ∈ p.rens, ∃ r' ∈ p.rens, r.newPath = r'.newPath ∧ r.path ≠ r'.path ∧
      r.newPath ≠ [] ∧ r.newPath ≠ r.path ∧ r'.newPath ≠ r'.path) :
    ((applyPlan t p).outcome = .destExists ∨ (applyPlan t p).outcome = .sharedDest) ∧ (applyPlan t p).tree = t := by
  obtain ⟨r, hr, r', hr', he, hne, hn0, hid, hid'⟩ := h
  exact RenamePhase.applyPlan_refusal fun hp => hne
    ((RenamePhase.preflight_nil_eq_none_iff.1 hp).2 (by decide) r hr r' hr' (skipRen_eq_false hn0 hid)
      (skipRen_eq_false (he ▸ hn0) hid') he)

/-- C05 "all chains where one rename's destination is another rename's source" — chains AND cycles (a swap `ab <-> ba`, a
    rotation): when the sources exist, a plan in which some rename's destination is the source of another rename is refused
    before anything is changed.  (There is no order in which plain rename(2) calls carry out a cycle without losing a node;
    for an open chain there is one, but `apply_plan` does not look for it — it refuses: seed C05e allowed chains through and
    lost files on cycles.) -/
theorem chain_or_cycle_refused (t : Tree) (p : Plan) (h4 : C02ren.KindsOk t p.rens)
    (h : ∃ r ∈ p.rens, ∃ r' ∈ p.rens, r.newPath = r'.path ∧ r.newPath ≠ [] ∧ r.newPath ≠ r.path) :
    ((applyPlan t p).outcome = .destExists ∨ (applyPlan t p).outcome = .sharedDest) ∧ (applyPlan t p).tree = t := by
  obtain ⟨r, hr, r', hr', he, hne, hnp⟩ := h
  exact occupied_refused t p ⟨r, hr, hne, hnp, by rw [he]; exact (h4 r' hr').1⟩

/-- non-vacuity: the swap is refused, both files untouched; the rename phase on its own would lose one -/
example :
    let t : Tree := [([b!"ab.txt"], .file b!"A" 420), ([b!"ba.txt"], .file b!"B" 420)]
    let rs : List Ren := [⟨[b!"ab.txt"], [b!"ba.txt"], .file⟩, ⟨[b!"ba.txt"], [b!"ab.txt"], .file⟩]
    C02ren.KindsOk t rs ∧ (applyPlan t ⟨[], rs⟩).outcome = .destExists ∧ (applyPlan t ⟨[], rs⟩).tree = t ∧
    (renamePhase t [] (sortRens rs)).tree.length = 1 := by decide +kernel

/-- C05, second sentence, with NO hypothesis about destinations: "every file present before a successful apply is still
    present afterwards, at its old path or its planned new path".  For every tree and every plan whose renames change
    only the last component of distinct existing sources: if apply reports success, the tree is `moveAll` of the tree
    the content phase left — the same number of nodes, every node with its kind, mode and link target, the node
    originally at `q` now at `finalPath p.rens q` (its own rename and those of its ancestors), and a path without a
    renamed prefix where it was.  Nothing is overwritten, merged or dropped.  (The destination guard `DestFree` of the
    composition theorems is not assumed: success implies it, by `C02ren.destFree_iff_preflight_loop`.) -/
theorem successful_apply_keeps_every_node (t : Tree) (p : Plan) (h1 : C02ren.LastOnly p.rens)
    (h2 : C02ren.DistinctSources p.rens) (h3 : C02ren.TreeWF t) (h4 : C02ren.KindsOk t p.rens)
    (hok : (applyPlan t p).outcome = .ok) :
    ∃ t1, contentPhase p.hunks t (sortedFiles p.hunks) = (.ok, t1) ∧
      (applyPlan t p).tree = C02ren.moveAll p.rens t1 ∧
      t1.map (·.1) = t.map (·.1) ∧
      (applyPlan t p).tree.map (·.2) = t1.map (·.2) ∧
      (applyPlan t p).tree.length = t.length ∧
      (∀ q, (∀ r ∈ p.rens, pre r.path q = false) → C02ren.finalPath p.rens q = q) := by
  obtain ⟨_, t1, hcp, htree⟩ := C02ren.apply_ok_moves t p h1 h2 h3 h4 hok
  have hs := RenamePhase.sameShape_contentPhase p.hunks (sortedFiles p.hunks) t
  rw [hcp] at hs
  refine ⟨t1, hcp, htree, hs.1, ?_, ?_, C02ren.nothing_else_moves p.rens⟩
  · rw [htree]; exact C02ren.nodes_preserved p.rens t1
  · rw [htree, C02ren.moveAll, List.length_map, ← List.length_map (f := (·.1)), hs.1, List.length_map]

/-- non-vacuity: the `foo\d -> bar` scenario is refused as a shared destination, tree untouched -/
example : (applyPlan [([b!"foo1.txt"], .file b!"A" 420), ([b!"foo2.txt"], .file b!"B" 420)]
    { hunks := [], rens := [{ path := [b!"foo1.txt"], newPath := [b!"bar.txt"], kind := .file },
                            { path := [b!"foo2.txt"], newPath := [b!"bar.txt"], kind := .file }] }).outcome
    = .sharedDest := by decide +kernel

/-- non-vacuity: the occupied-file scenario is refused, tree untouched -/
example : (applyPlan [([b!"foo_bar.txt"], .file b!"new\n" 420), ([b!"baz_qux.txt"], .file b!"precious\n" 420)]
    { hunks := [], rens := [{ path := [b!"foo_bar.txt"], newPath := [b!"baz_qux.txt"], kind := .file }] }).outcome
    = .destExists := by decide +kernel

/-- The same statement for the rename phase ALONE is false — which is why the pre-flight exists
    (this was the behaviour of the whole command before the fix). -/
def renamePhaseAlone_refuses : Prop :=
  ∀ (t : Tree) (rs : List Ren), (∃ r ∈ rs, (lookup t r.newPath).isSome ∧ ¬ (∃ r' ∈ rs, r'.path = r.newPath)) →
    (renamePhase t [] (sortRens rs)).outcome ≠ .ok ∧ (renamePhase t [] (sortRens rs)).tree = t

def occupiedTree : Tree :=
  [([b!"foo_bar.txt"], .file b!"new\n" 420), ([b!"baz_qux.txt"], .file b!"precious\n" 420)]

/-- Without the pre-flight the occupant is silently replaced, outcome ok (finding before the fix). -/
theorem renamePhaseAlone_witness_occupied :
    let r := renamePhase occupiedTree [] (sortRens [{ path := [b!"foo_bar.txt"], newPath := [b!"baz_qux.txt"], kind := .file }])
    r.outcome = .ok ∧ r.tree = [([b!"baz_qux.txt"], .file b!"new\n" 420)] := by decide +kernel

theorem renamePhaseAlone_refuses_is_false : ¬ renamePhaseAlone_refuses := by
  intro h
  have := h occupiedTree [{ path := [b!"foo_bar.txt"], newPath := [b!"baz_qux.txt"], kind := .file }]
    ⟨_, List.mem_singleton.mpr rfl, by decide, by decide⟩
  exact absurd this.1 (by decide)

def chainTree : Tree :=
  [([b!"foo.txt"], .file b!"one\n" 420), ([b!"foo_bar.txt"], .file b!"two\n" 420)]

/-- Without the pre-flight, chain shape (replacement contains the term: foo -> foo_bar): `foo.txt` lands on the
    still-present `foo_bar.txt` when it is processed first. -/
theorem renamePhaseAlone_witness_chain :
    let r := renamePhase chainTree [] (sortRens
      [{ path := [b!"foo.txt"], newPath := [b!"foo_bar.txt"], kind := .file },
       { path := [b!"foo_bar.txt"], newPath := [b!"foo_bar_bar.txt"], kind := .file }])
    r.outcome = .ok ∧ nodes r.tree = [.file b!"one\n" 420] := by decide +kernel

/-- non-vacuity of `renamePhase_free_keeps_nodes`: a nested plan with free destinations -/
example : allFree [([b!"foo_bar"], .dir 493), ([b!"foo_bar", b!"foo_bar.txt"], .file b!"x" 420)] []
    (sortRens [{ path := [b!"foo_bar", b!"foo_bar.txt"], newPath := [b!"foo_bar", b!"baz_qux.txt"], kind := .file },
               { path := [b!"foo_bar"], newPath := [b!"baz_qux"], kind := .dir }]) = true := by decide +kernel

end C05
