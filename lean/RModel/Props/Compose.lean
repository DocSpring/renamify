import RModel.Props.C01
import RModel.Props.C08
import RModel.Props.C03
import RModel.Props.C15
import RModel.Lemmas.ExactPass
/-
  Cross-model composition theorems: the rename PLANNER (`RenamePlan.planRenames`, rename.rs), APPLY (`Apply.applyPlan`,
  apply.rs) and UNDO (`Undo.applyUndo`, undo.rs) are three hand-written models, each tied to the code by its own
  correspondence stream.  The theorems here chain them, so that the guards of the apply / undo theorems
  (`LastOnly`, `DistinctSources`, `KindsOk`, `DestFree`) are not hypotheses about a plan but CONSEQUENCES of
  "the planner produced it and apply accepted it":

    plan (C08)  ──accepted──▶  apply (C02/C05): refuses up front, tree untouched   (no third case)
                                               or moves every node to `finalPath`
                                 └─ ok ──▶  undo (C01): the tree is literally the one before apply

  In the same way the content planner is chained with apply (`scanned_file_applied`, C03 + C02) and the preview with
  apply (`preview_plus_line_is_line_after_apply`, C15 + C02); `exact_pass_models_agree`: the two models of `pattern.rs`
  report the same spans.

  Checked by `checks/c01.py`, `checks/c05.py` and `checks/c08.py` (`ctx.prove("RModel.Props.Compose")`).
-/
namespace Compose
open Fs Apply RenamePlan Undo

/-- what the planner needs to be well defined on a tree (C08's hypotheses, bundled) -/
structure PlannerOk (T : Tables) (o : Opts) (vmap : List VEntry) (t : Tree) (roots : List Path) : Prop where
  treeWF : C02ren.TreeWF t
  vals : C08.GoodVals vmap
  slashFree : ∀ e ∈ t, ∀ c ∈ e.1, (47 : UInt8) ∉ c
  noGit : C08.NoGitRoots roots

/-- PLAN ∘ APPLY: for every tree, every list of search roots, every variant table and EVERY list of content hunks, a
    rename plan the planner accepts is either refused by `apply_plan` before anything is touched (a destination exists
    on disk), or — content phase permitting — carried out completely: every node sits at `finalPath`.  There is no
    outcome in which some renames are done and others are not, or in which a node is overwritten. -/
theorem planned_refuses_or_moves (T : Tables) (o : Opts) (vmap : List VEntry) (t : Tree) (roots : List Path)
    (rs : List Ren) (hunks : List Hunk) (hp : PlannerOk T o vmap t roots)
    (hacc : planRenames T o vmap t roots = .ok rs)
    (hc : (contentPhase hunks t (sortedFiles hunks)).1 = .ok) :
    let p : Plan := ⟨hunks, rs⟩
    (((applyPlan t p).outcome = .destExists ∨ (applyPlan t p).outcome = .sharedDest) ∧ (applyPlan t p).tree = t) ∨
    ((applyPlan t p).outcome = .ok ∧
      (applyPlan t p).tree = C02ren.moveAll rs (contentPhase hunks t (sortedFiles hunks)).2) ∨
    (applyPlan t p).outcome = .backupFailed ∨ (∃ e, (applyPlan t p).outcome = .rollbackFailed e) := by
  obtain ⟨h1, h2, h4, _⟩ := C08.accepted_guards T o vmap t roots rs hp.treeWF hp.vals hp.slashFree hp.noGit hacc
  exact C02ren.applyPlan_refuses_or_moves t ⟨hunks, rs⟩ h1 h2 hp.treeWF h4 hc

/-- the pre-flight loop answers `sharedDest` only when two renames of the plan `L` it is run on (`seen`: passed already,
    `todo`: still to come) have one destination and different sources -/
theorem preflight_sharedDest {t : Tree} {L : List Ren} : ∀ (todo seen : List Ren), (∀ x ∈ seen, x ∈ L) →
    (∀ x ∈ todo, x ∈ L) → preflight t seen todo = some .sharedDest →
    ∃ r ∈ L, ∃ s ∈ L, s.newPath = r.newPath ∧ s.path ≠ r.path := by
  intro todo
  induction todo with
  | nil => intro seen _ _ h; cases h
  | cons r todo ih =>
    intro seen hs ht h
    have hr : r ∈ L := ht r List.mem_cons_self
    have ht' : ∀ x ∈ todo, x ∈ L := fun x hx => ht x (List.mem_cons_of_mem _ hx)
    rw [preflight] at h
    by_cases hskip : skipRen r = true
    · rw [if_pos hskip] at h; exact ih seen hs ht' h
    rw [if_neg hskip] at h
    by_cases hshare : sharesDest seen r = true
    · obtain ⟨s, hsm, hcond⟩ := List.any_eq_true.1 (Bool.and_eq_true_iff.1 hshare).2
      simp only [Bool.and_eq_true, beq_iff_eq, bne_iff_ne, ne_eq] at hcond
      exact ⟨r, hr, s, hs s hsm, hcond⟩
    rw [if_neg hshare] at h
    by_cases hex : (lookup t r.newPath).isSome = true
    · rw [if_pos hex] at h; cases h
    · rw [if_neg hex] at h
      exact ih (r :: seen) (fun x hx => (List.mem_cons.1 hx).elim (fun e => e ▸ hr) (hs x)) ht' h

/-- a planner-made plan is never refused for a SHARED destination: the planner's own conflict filter has removed those
    (so the refusal of repo commit 01297aa only ever fires for the literal/regex planner of `replace` and for
    hand-edited plan files) -/
theorem planned_never_shares_destination (T : Tables) (o : Opts) (vmap : List VEntry) (t : Tree) (roots : List Path)
    (rs : List Ren) (hunks : List Hunk) (hp : PlannerOk T o vmap t roots)
    (hacc : planRenames T o vmap t roots = .ok rs) :
    (applyPlan t ⟨hunks, rs⟩).outcome ≠ .sharedDest := by
  obtain ⟨h1, h2, h4, hsd⟩ := C08.accepted_guards T o vmap t roots rs hp.treeWF hp.vals hp.slashFree hp.noGit hacc
  intro hout
  cases hpf : preflight t [] rs with
  | none =>
    -- passed the loop: the outcome comes from `applyCore`, which never answers `sharedDest`
    rw [RenamePhase.applyPlan_pass (t := t) (p := ⟨hunks, rs⟩) hpf] at hout
    exact applyCore_ne_sharedDest t ⟨hunks, rs⟩ hout
  | some o' =>
    rw [RenamePhase.applyPlan_stop t ⟨hunks, rs⟩ hpf] at hout
    exact preflight_sharedDest_absurd h1.toLemma hsd (hpf.trans (congrArg some hout))
where
  applyCore_ne_sharedDest (t : Tree) (p : Plan) : (applyCore t p).outcome ≠ .sharedDest := by
    -- (`intro h` would leave the `where` lemma with the type `… = _ → False` instead of `≠`)
    refine Ne.intro fun h => ?_
    cases hcp : contentPhase p.hunks t (sortedFiles p.hunks) with
    | mk o t1 =>
      by_cases ho : o = .ok
      · subst ho
        rw [RenamePhase.applyCore_eq hcp] at h
        split at h
        · -- STEP 4 keeps the result of the rename phase or answers `backupFailed` / `rollbackFailed`
          rcases RenamePhase.backupPhase_cases _ (sortedFiles p.hunks) with hb | hb | ⟨e, hb⟩
          · exact renamePhase_ne_sharedDest _ _ _ (hb ▸ h)
          · cases hb.symm.trans h
          · cases hb.symm.trans h
        · exact renamePhase_ne_sharedDest _ _ _ h
      · rw [RenamePhase.applyCore_stop hcp ho] at h
        exact contentPhase_ne_sharedDest _ _ _ (hcp.trans (congrArg (·, t1) h))
  renamePhase_ne_sharedDest : ∀ (rs : List Ren) (t : Tree) (perf : List (Path × Path)),
      (renamePhase t perf rs).outcome ≠ .sharedDest := by
    intro rs t perf
    refine Ne.intro fun h => ?_
    rcases RenamePhase.renamePhase_outcome rs t perf with ho | ⟨e, ho⟩ | ⟨e, ho⟩ <;> cases ho.symm.trans h
  contentPhase_ne_sharedDest : ∀ (hs : List Hunk) (fs : List Path) (t : Tree) {t1 : Tree},
      contentPhase hs t fs ≠ (.sharedDest, t1) := by
    intro hs fs t t1
    refine Ne.intro fun h => ?_
    have ho := ContentPhase.contentPhase_outcome hs fs t
    rw [h] at ho
    rcases ho with ho | ho | ho | ho <;> cases ho
  preflight_sharedDest_absurd {t : Tree} {rs : List Ren} (hlo : RenamePhase.LastOnly rs)
      (hsd : C02ren.SiblingDestsDistinct rs) (h : preflight t [] rs = some .sharedDest) : False := by
    obtain ⟨r, hr, s, hs, hnew, hne⟩ := preflight_sharedDest rs [] (fun _ hx => nomatch hx) (fun _ hx => hx) h
    -- two renames with one destination are siblings with one new name
    exact hsd r hr s hs hne (by rw [← (hlo s hs).2.2, ← (hlo r hr).2.2, hnew]) (by rw [hnew])

/-- PLAN ∘ APPLY ∘ UNDO = ID.  For every tree, roots, variant table, content hunks and every diff library satisfying
    `C01.Contract`: if the planner accepts and apply succeeds, then undo succeeds and the tree afterwards is literally
    the tree before — every path, byte, mode and link target.  No guard on the plan is left: `LastOnly`,
    `DistinctSources`, `KindsOk` come from the planner theorem (`C08.accepted_guards`), `DestFree` from the success of
    apply (`C02ren.destFree_iff_preflight_loop`), key-uniqueness of the edited files from `PathOrder.sortedFiles_nodup`. -/
theorem planned_apply_undo_roundtrip (cfg : Undo.Cfg) (hcfg : C01.Contract cfg)
    (T : Tables) (o : Opts) (vmap : List VEntry) (t : Tree) (roots : List Path)
    (rs : List Ren) (hunks : List Hunk) (hp : PlannerOk T o vmap t roots)
    (hacc : planRenames T o vmap t roots = .ok rs)
    (hok : (applyPlan t ⟨hunks, rs⟩).outcome = .ok) :
    ∃ u, applyUndo cfg t ⟨hunks, rs⟩ = (.ok, some u) ∧ u.outcome = .ok ∧ u.tree = t := by
  obtain ⟨h1, h2, h4, _⟩ := C08.accepted_guards T o vmap t roots rs hp.treeWF hp.vals hp.slashFree hp.noGit hacc
  exact C01.undo_apply_id_of_ok cfg hcfg t ⟨hunks, rs⟩ h1 h2 hp.treeWF h4 hok

/-- non-vacuity: C08's example tree and plan (nested renamed directories, a renamed symlink, files in four styles)
    satisfy every hypothesis (file-name coercion ON, real tables: its safety is a theorem, `C08.coerceSafe_of_goodVals`),
    and apply succeeds -/
example : PlannerOk C08.T0 C08.o0 C08.vm0 C08.exTree [[b!"proj"]] ∧
    planRenames C08.T0 C08.o0 C08.vm0 C08.exTree [[b!"proj"]] = .ok C08.exPlan ∧
    (applyPlan C08.exTree ⟨[], C08.exPlan⟩).outcome = .ok :=
  ⟨⟨C08.example_guards.1, C08.example_guards.2.1, C08.example_guards.2.2.1, by decide⟩, C08.example_plan,
    C08.example_apply.1⟩

/-- … so the round trip theorem applies to it, for every diff library satisfying the contract -/
example (cfg : Undo.Cfg) (hcfg : C01.Contract cfg) :
    ∃ u, applyUndo cfg C08.exTree ⟨[], C08.exPlan⟩ = (.ok, some u) ∧ u.outcome = .ok ∧ u.tree = C08.exTree :=
  planned_apply_undo_roundtrip cfg hcfg C08.T0 C08.o0 C08.vm0 C08.exTree [[b!"proj"]]
    C08.exPlan [] ⟨C08.example_guards.1, C08.example_guards.2.1, C08.example_guards.2.2.1, by decide⟩
    C08.example_plan C08.example_apply.1

/-- the hunks the content planner emits for one file: one per match of `findMatches`, with any replacement texts -/
def hunksOf (f : Path) (repl : Matcher.Match → Bytes) (ms : List Matcher.Match) : List Hunk :=
  (C03.toEdits repl ms).map (fun e => { file := f, before := e.before, after := e.after, start := e.start, stop := e.stop })

theorem editsFor_hunksOf (f : Path) (repl : Matcher.Match → Bytes) (ms : List Matcher.Match) :
    editsFor (hunksOf f repl ms) f = C03.toEdits repl ms := by
  -- every hunk is one of `f`, and turning an edit into a hunk and back gives the edit
  rw [editsFor, hunksOf, List.filter_eq_self.2 fun h hm => by
    obtain ⟨e, _, rfl⟩ := List.mem_map.1 hm
    exact beq_self_eq_true f, List.map_map]
  exact (List.map_congr_left fun _ _ => rfl).trans (List.map_id _)

/-- SCAN ∘ APPLY for contents (C03 + C02).  A file `f` with valid UTF-8 bytes `c`; the matches of ANY non-empty list of
    ASCII variants in it (leftmost-longest, boundary-checked: `Matcher.findMatches`); ANY replacement text per match; ANY
    renames of the usual shape next to it (the file itself, its directory, other nodes).  If `applyPlan` reports success,
    the file — at the place its renames take it to — holds exactly the left-to-right substitution of the matches:
    every match replaced, every other byte kept, its mode kept.  Nothing is assumed about the hunks: their consistency is
    `C03.findMatches_Consistent`. -/
theorem scanned_file_applied (t : Tree) (rs : List Ren) (f : Path) (c : Bytes) (m : Nat)
    (vs : List Bytes) (repl : Matcher.Match → Bytes)
    (hne : vs ≠ []) (hc : Utf8.valid c = true) (hascii : ∀ v ∈ vs, ∀ b ∈ v, b.toNat < 128)
    (hvalid : ∀ v ∈ vs, Utf8.valid v = true)
    (hrepl : ∀ mt b, (repl mt).head? = some b → Edits.isCont b = false)
    (hms : Matcher.findMatches vs c ≠ [])
    (h1 : C02ren.LastOnly rs) (h2 : C02ren.DistinctSources rs) (h3 : C02ren.TreeWF t) (h4 : C02ren.KindsOk t rs)
    (hl : lookup t f = some (.file c m))
    (hok : (applyPlan t ⟨hunksOf f repl (Matcher.findMatches vs c), rs⟩).outcome = .ok) :
    lookup (applyPlan t ⟨hunksOf f repl (Matcher.findMatches vs c), rs⟩).tree (C02ren.finalPath rs f) =
      some (.file (Edits.spec c 0 (C03.toEdits repl (Matcher.findMatches vs c))) m) := by
  have hcons := (C03.findMatches_Consistent vs c hne hc hascii hvalid repl hrepl).1
  have hf : f ∈ sortedFiles (hunksOf f repl (Matcher.findMatches vs c)) := by
    obtain ⟨m0, ms, hm⟩ := List.exists_cons_of_ne_nil hms
    have : ({ file := f, before := m0.text, after := repl m0, start := m0.start, stop := m0.stop } : Hunk) ∈
        hunksOf f repl (Matcher.findMatches vs c) := by
      rw [hm]; simp [hunksOf, C03.toEdits]
    exact PathOrder.mem_sortedFiles.2 ⟨_, this, rfl⟩
  have := C02ren.apply_exact_content t ⟨hunksOf f repl (Matcher.findMatches vs c), rs⟩ h1 h2 h3 h4 hok f c m hf hl
    (by rw [editsFor_hunksOf]; exact hcons)
  rwa [editsFor_hunksOf] at this

/-- non-vacuity: `x foo_bar y / FooBar` with the variants `foo_bar`, `FooBar`, inside a directory that is renamed -/
example :
    let t : Tree := [([b!"foo_bar"], .dir 493), ([b!"foo_bar", b!"a.txt"], .file b!"x foo_bar y\nFooBar\n" 420)]
    let vs : List Bytes := [b!"foo_bar", b!"FooBar"]
    let repl : Matcher.Match → Bytes := fun mt => if mt.text == b!"foo_bar" then b!"baz_qux" else b!"BazQux"
    let rs : List Ren := [⟨[b!"foo_bar"], [b!"baz_qux"], .dir⟩]
    Matcher.findMatches vs b!"x foo_bar y\nFooBar\n" ≠ [] ∧
    (applyPlan t ⟨hunksOf [b!"foo_bar", b!"a.txt"] repl (Matcher.findMatches vs b!"x foo_bar y\nFooBar\n"), rs⟩).outcome = .ok ∧
    lookup (applyPlan t ⟨hunksOf [b!"foo_bar", b!"a.txt"] repl (Matcher.findMatches vs b!"x foo_bar y\nFooBar\n"), rs⟩).tree
      [b!"baz_qux", b!"a.txt"] = some (.file b!"x baz_qux y\nBazQux\n" 420) := by decide +kernel

/-- PREVIEW ∘ APPLY (C15 + C02).  C15's `diff_plus_line_eq_applied` speaks about `Edits.spec`, the left-to-right splice;
    `C02ren.apply_exact_content` says that this splice is what the WHOLE apply model (pre-flight, backups, content phase,
    rename phase) leaves on disk.  Chained: for a planned file `A ++ L ++ B` (A complete lines, L one line) whose edits are
    the edits before the line, the hunks `hs` the diff shows for the line, and the edits after it, a successful apply puts
    the file — at the place its renames take it to, mode kept — in a state whose line `nlCount A + 1` is EXACTLY the text on
    the `+` side of the `@@ line n @@` block, and the `-` side (`lineBefore`) is line n of the file as it was. -/
theorem preview_plus_line_is_line_after_apply (t : Tree) (p : Plan) (f : Path) (m : Nat)
    (A L B : Bytes) (EA EB : List Edits.Edit) (hs : List Hunks.Hunk)
    (h1 : C02ren.LastOnly p.rens) (h2 : C02ren.DistinctSources p.rens) (h3 : C02ren.TreeWF t) (h4 : C02ren.KindsOk t p.rens)
    (hok : (applyPlan t p).outcome = .ok)
    (hf : f ∈ sortedFiles p.hunks) (hl : lookup t f = some (.file (A ++ (L ++ B)) m))
    (hedits : editsFor p.hunks f = EA ++ Hunks.shift A.length (hs.map Hunks.toEdit ++ Hunks.shift L.length EB))
    (hcons : Edits.Consistent (A ++ (L ++ B)) 0 (editsFor p.hunks f))
    (hAend : A = [] ∨ ∃ A0, A = A0 ++ [10])
    (hLline : ∃ L0, L = L0 ++ [10] ∧ Matcher.nlCount L0 = 0)
    (hnil : hs ≠ []) (hne : ∀ h ∈ hs, h.content ≠ [])
    (hlb : ∀ h ∈ hs, h.lineBefore = L)
    (hla : ∀ h ∈ hs, h.lineAfter = L.take h.byteOffset ++ h.replace ++ L.drop (h.byteOffset + h.content.length))
    (hA : Edits.Consistent A 0 EA) (hL : Edits.Consistent L 0 (hs.map Hunks.toEdit))
    (hnlA : ∀ e ∈ EA, Matcher.nlCount e.before = 0 ∧ Matcher.nlCount e.after = 0 ∧ e.start < e.stop)
    (hnlL : ∀ h ∈ hs, Matcher.nlCount h.content = 0 ∧ Matcher.nlCount h.replace = 0) :
    ∃ plus c', Hunks.diffAfterText hs = some plus ∧
      lookup (applyPlan t p).tree (C02ren.finalPath p.rens f) = some (.file c' m) ∧
      Hunks.lineOf (A ++ (L ++ B)) (Matcher.nlCount A + 1) = some L ∧
      Hunks.lineOf c' (Matcher.nlCount A + 1) = some plus := by
  obtain ⟨plus, hplus, hold, hnew⟩ :=
    C15.diff_plus_line_eq_applied A L B EA EB hs hAend hLline hnil hne hlb hla hA hL hnlA hnlL
  have happ := C02ren.apply_exact_content t p h1 h2 h3 h4 hok f _ m hf hl hcons
  rw [hedits] at happ
  exact ⟨plus, _, hplus, happ, hold, hnew⟩

/-- non-vacuity: the second line of a three-line file inside a directory that is renamed; hunks on lines 1 and 2 -/
example :
    let A := b!"a foo\n"; let L := b!"é foo, foo;\r\n"; let B := b!"tail\n"
    let f : Path := [b!"foo_dir", b!"a.txt"]
    let t : Tree := [([b!"foo_dir"], .dir 493), (f, .file (A ++ (L ++ B)) 420)]
    let mk := fun (c : Nat) =>
      ({ line := 2, byteOffset := c, charOffset := 0, start := 0, stop := 0, content := b!"foo", replace := b!"quux",
         lineBefore := L, lineAfter := L.take c ++ b!"quux" ++ L.drop (c + 3) } : Hunks.Hunk)
    let EA : List Edits.Edit := [{ before := b!"foo", after := b!"quux", start := 2, stop := 5 }]
    let es := EA ++ Hunks.shift A.length ([mk 3, mk 8].map Hunks.toEdit ++ Hunks.shift L.length [])
    let p : Plan := ⟨es.map (fun e => { file := f, before := e.before, after := e.after, start := e.start, stop := e.stop }),
                     [⟨[b!"foo_dir"], [b!"quux_dir"], .dir⟩]⟩
    editsFor p.hunks f = es ∧ (applyPlan t p).outcome = .ok ∧
    Hunks.diffAfterText [mk 3, mk 8] = some b!"é quux, quux;\r\n" ∧
    lookup (applyPlan t p).tree [b!"quux_dir", b!"a.txt"] = some (.file b!"a quux\né quux, quux;\r\ntail\n" 420) ∧
    Hunks.lineOf b!"a quux\né quux, quux;\r\ntail\n" 2 = some b!"é quux, quux;\r\n" := by decide +kernel

/-- INTERNAL CONSISTENCY.  `pattern.rs` (`build_pattern`, `find_matches`, `is_boundary`) is modelled twice by hand:
    `Matcher.findMatches` for C03 / C14 / C15 (whole files) and `LinePipeline.exactMatches` for C06 / C07 (one line, the keys
    of the variant table), each compared with the real code on its own request stream.  For every content and every
    non-empty list of non-empty keys they report THE SAME SPANS — although they order equal-length alternatives differently
    (irrelevant: two different keys that match at one position are prefixes of one another, hence of different length, which
    is also why leftmost-first over the length-sorted alternation is leftmost-longest). -/
theorem exact_pass_models_agree (content : Bytes) (ks : List Bytes) (hks : ks ≠ []) (hne : ∀ k ∈ ks, k ≠ []) :
    (LinePipeline.exactMatches content ks).map (fun m => (m.1, m.1 + m.2.length)) =
      (Matcher.findMatches ks content).map (fun m => (m.start, m.stop)) :=
  ExactPass.exactMatches_eq_findMatches content ks hks hne

/-- non-vacuity, and the tie order really differs: `foo_bar` / `FOO_BAR` have equal length -/
example :
    LinePipeline.sortKeys [b!"foo_bar", b!"FOO_BAR", b!"FooBar", b!"fooBar"] ≠
      Matcher.orderAlts [b!"foo_bar", b!"FOO_BAR", b!"FooBar", b!"fooBar"] ∧
    (LinePipeline.exactMatches b!"x foo-bar(foo_bar) FooBar_y" [b!"foo_bar", b!"foo-bar", b!"FooBar"]).map
      (fun m => (m.1, m.1 + m.2.length)) = [(2, 9), (10, 17), (19, 25)] ∧
    (Matcher.findMatches [b!"foo_bar", b!"foo-bar", b!"FooBar"] b!"x foo-bar(foo_bar) FooBar_y").map
      (fun m => (m.start, m.stop)) = [(2, 9), (10, 17), (19, 25)] := by decide +kernel

end Compose
