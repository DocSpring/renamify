import RModel.Base.Lit
import RModel.Model.Hunks
import RModel.Model.Edits
import RModel.Lemmas.Edits
import RModel.Lemmas.Matcher
import RModel.Lemmas.Hunks
import RModel.Lemmas.DiffLift
import RModel.Gen.LineAfterColumn
/-
  C15 — What the preview shows is what apply does.   (property theorems only)

  Scope of the theorems: lines that are valid UTF-8 (other lines: `line_after_single_decoded`, since 7807217;
  before, a RAW-line column indexed the LOSSY string), hunks consistent with the line
  (C03 proves that of every case-aware plan), replacements without `\n` for the statement about line
  NUMBERS.  The diff preview and the plan JSON are in scope; colours and the other previews are not.
-/
namespace C15
open Hunks Edits Matcher

/-- each 'before' line is the file's current line -/
theorem line_before_is_line (content : Bytes) (line col start stop : Nat) (text repl l : Bytes)
    (hl : lineOf content line = some l) (hv : Utf8.valid l = true) (h : Hunk) (how : How)
    (hg : hunkGeom content line col start stop text repl = .ok h how) : h.lineBefore = l := by
  simp only [hunkGeom, hunkGeomG, Bool.false_eq_true, if_false, hl, Matcher.lossy_of_valid hv] at hg
  split at hg
  · cases hg
  · cases hg; rfl

/-- each match's 'after' line is that line with that match replaced; the `find` fallback is unreachable -/
theorem line_after_single (content : Bytes) (line col start stop : Nat) (text repl l : Bytes)
    (hl : lineOf content line = some l) (hv : Utf8.valid l = true)
    (hne : text ≠ []) (hpre : text <+: l.drop col) (hb : isCharBoundary l col = true) :
    ∃ h, hunkGeom content line col start stop text repl = .ok h .splice ∧
      h.lineBefore = l ∧ h.lineAfter = l.take col ++ repl ++ l.drop (col + text.length) ∧
      h.byteOffset = col ∧ h.content = text ∧ h.replace = repl := by
  have hcol : col < l.length :=
    Nat.lt_of_lt_of_le (Nat.lt_add_of_pos_right (List.length_pos_iff.mpr hne)) (prefix_drop_bound hpre hne)
  simp only [hunkGeom, hunkGeomG, Bool.false_eq_true, if_false, if_true, hl, Matcher.lossy_of_valid hv, lineAfter,
    startsWithAt, hcol, hb, List.isPrefixOf_iff_prefix.mpr hpre, spliceAt]
  exact ⟨_, rfl, rfl, rfl, rfl, rfl, rfl⟩

/-- `line_after_single` for the planner AS IT IS: `Gen.lineAfterColumnIsByte` is re-extracted from scanner.rs on every run
    (translate/line_after_column.py: which position does `generate_hunks` slice the line at?).  If the code starts to
    splice at a character offset the flag flips to `false`, `decide` fails here and the check reports the broken proof —
    and `C15_witness_char_column` below shows what then goes wrong. -/
theorem line_after_single_current (content : Bytes) (line col start stop : Nat) (text repl l : Bytes)
    (hl : lineOf content line = some l) (hv : Utf8.valid l = true)
    (hne : text ≠ []) (hpre : text <+: l.drop col) (hb : isCharBoundary l col = true) :
    ∃ h, hunkGeomG Gen.lineAfterColumnIsByte false content line col start stop text repl = .ok h .splice ∧
      h.lineBefore = l ∧ h.lineAfter = l.take col ++ repl ++ l.drop (col + text.length) := by
  have hflag : Gen.lineAfterColumnIsByte = true := by decide +kernel
  rw [hflag]
  obtain ⟨h, h1, h2, h3, _⟩ := line_after_single content line col start stop text repl l hl hv hne hpre hb
  exact ⟨h, h1, h2, h3⟩

/-- `line_after_single` WITHOUT the valid-UTF-8 clause, for the shape of seeded/_fixes/c03_line_context_decoded_parts.diff.
    Reading of the property on a line that cannot be decoded: the recorded context is the LOSSY RENDERING of the file's line
    (`String::from_utf8_lossy`, one U+FFFD per maximal invalid sequence) — `line_before` renders the whole line, `line_after`
    is (rendering of the bytes before the match) ++ replacement ++ (rendering of the bytes after the match), `char_offset`
    counts the characters of the rendered text before the match.  For ANY bytes: the match only has to stand at its column
    of the raw line (C03); the `find` fallback is unreachable. -/
theorem line_after_single_decoded (colIsByte : Bool) (content : Bytes) (line col start stop : Nat) (text repl l : Bytes)
    (hl : lineOf content line = some l) (hpre : text <+: l.drop col) (hlen : col + text.length ≤ l.length) :
    ∃ h, hunkGeomG colIsByte true content line col start stop text repl = .ok h .splice ∧
      h.lineBefore = Utf8.lossy l ∧
      h.lineAfter = Utf8.lossy (l.take col) ++ repl ++ Utf8.lossy (l.drop (col + text.length)) ∧
      h.charOffset = Utf8.charCount (Utf8.lossy (l.take col)) ∧
      h.byteOffset = col ∧ h.content = text ∧ h.replace = repl := by
  have hcol : col ≤ l.length := by omega
  simp only [hunkGeomG, hl, if_true, lineAfterParts, hlen, decide_true, Bool.true_and,
    List.isPrefixOf_iff_prefix.mpr hpre, hcol]
  exact ⟨_, rfl, rfl, rfl, rfl, rfl, rfl, rfl⟩

/-- … and for the planner AS IT IS: holds as soon as `Gen.lineAfterDecodesParts` (re-extracted from scanner.rs on every run)
    is true, which it is since 7807217 (C03 finding invalid_utf8_line_context). -/
theorem line_after_single_decoded_current (content : Bytes) (line col start stop : Nat) (text repl l : Bytes)
    (hflag : Gen.lineAfterDecodesParts = true)
    (hl : lineOf content line = some l) (hpre : text <+: l.drop col) (hlen : col + text.length ≤ l.length) :
    ∃ h, hunkGeomG Gen.lineAfterColumnIsByte Gen.lineAfterDecodesParts content line col start stop text repl = .ok h .splice ∧
      h.lineBefore = Utf8.lossy l ∧
      h.lineAfter = Utf8.lossy (l.take col) ++ repl ++ Utf8.lossy (l.drop (col + text.length)) := by
  rw [hflag]
  obtain ⟨h, h1, h2, h3, _⟩ := line_after_single_decoded Gen.lineAfterColumnIsByte content line col start stop text repl l hl hpre hlen
  exact ⟨h, h1, h2, h3⟩

/-- on a valid-UTF-8 line both shapes record the same context (the repair changes nothing there) -/
theorem decoded_parts_agree_on_valid (content : Bytes) (line col start stop : Nat) (text repl l : Bytes)
    (hl : lineOf content line = some l) (hv : Utf8.valid l = true) (hvt : Utf8.valid (l.take col) = true)
    (hvd : Utf8.valid (l.drop (col + text.length)) = true)
    (hne : text ≠ []) (hpre : text <+: l.drop col) (hb : isCharBoundary l col = true) :
    ∃ h h', hunkGeomG true false content line col start stop text repl = .ok h .splice ∧
      hunkGeomG true true content line col start stop text repl = .ok h' .splice ∧
      h.lineBefore = h'.lineBefore ∧ h.lineAfter = h'.lineAfter := by
  have hlen : col + text.length ≤ l.length := prefix_drop_bound hpre hne
  obtain ⟨h, h1, h2, h3, _⟩ := line_after_single content line col start stop text repl l hl hv hne hpre hb
  obtain ⟨h', g1, g2, g3, _⟩ := line_after_single_decoded true content line col start stop text repl l hl hpre hlen
  refine ⟨h, h', h1, g1, ?_, ?_⟩
  · rw [h2, g2, Matcher.lossy_of_valid hv]
  · rw [h3, g3, Matcher.lossy_of_valid hvt, Matcher.lossy_of_valid hvd]

theorem line_after_eq_spec (l : Bytes) (col : Nat) (text repl : Bytes) :
    l.take col ++ repl ++ l.drop (col + text.length)
      = spec l 0 [{ before := text, after := repl, start := col, stop := col + text.length }] := by
  simp [spec]

/-- `diff_plus_line` (line level).  For ANY number of hunks of one line that are consistent with it
    (ascending, disjoint, on character boundaries, text present — C03) and have non-empty text, the text
    that `render_diff` puts on the `+` side — `line_after` for one hunk, the right-to-left merge in
    descending `byte_offset` order for several — is the line with every match replaced, left to right.
    No uniqueness of the text within the line is needed (the merge indexes by column, never searches),
    CR-LF needs no special case (the terminator is part of `line`), length-changing replacements are fine. -/
theorem diff_after_eq_spec (line : Bytes) (hs : List Hunk) (hnil : hs ≠ [])
    (hne : ∀ h ∈ hs, h.content ≠ [])
    (hlb : ∀ h ∈ hs, h.lineBefore = line)
    (hla : ∀ h ∈ hs, h.lineAfter = line.take h.byteOffset ++ h.replace ++ line.drop (h.byteOffset + h.content.length))
    (hc : Consistent line 0 (hs.map toEdit)) :
    diffAfterText hs = some (spec line 0 (hs.map toEdit)) := by
  match hs, hnil with
  | [h], _ =>
    rw [diffAfterText, hla h List.mem_cons_self]
    exact congrArg some (line_after_eq_spec line _ _ _)
  | h1 :: h2 :: rest, _ =>
    have hasc := (ascending_of_consistent line 0 (h1 :: h2 :: rest) hne hc).1
    simp only [diffAfterText]
    rw [hlb h1 List.mem_cons_self, sortDesc_of_ascending _ hasc, mergeRun_reverse_eq_spec line 0 _ hne hc]
    rfl

/-- … and that text is exactly what stands in the line's place in the file after apply: the applied file is
    (lines before, edited) ++ (the `+` text) ++ (lines after, edited), and apply succeeds (C02). -/
theorem diff_plus_text_is_applied_text (A L B : Bytes) (EA EB : List Edit) (hs : List Hunk)
    (hnil : hs ≠ []) (hne : ∀ h ∈ hs, h.content ≠ [])
    (hlb : ∀ h ∈ hs, h.lineBefore = L)
    (hla : ∀ h ∈ hs, h.lineAfter = L.take h.byteOffset ++ h.replace ++ L.drop (h.byteOffset + h.content.length))
    (hA : Consistent A 0 EA) (hL : Consistent L 0 (hs.map toEdit)) :
    ∃ plus, diffAfterText hs = some plus ∧
      spec (A ++ (L ++ B)) 0 (EA ++ shift A.length (hs.map toEdit ++ shift L.length EB))
        = spec A 0 EA ++ (plus ++ spec B 0 EB) := by
  refine ⟨_, diff_after_eq_spec L hs hnil hne hlb hla hL, ?_⟩
  rw [spec_append A (L ++ B) 0 EA _ hA, spec_append L B 0 _ EB hL]

/-- `diff_plus_line_eq_applied` (file level).  File = A ++ L ++ B with A a block of complete lines and L one
    line ending in `\n` (CR-LF included).  Edits before the line (EA), the line's hunks (hs) and edits after it (EB) are
    consistent with their parts; texts and replacements before and on the line contain no newline and texts are non-empty.
    Then the block `@@ line n @@` with n = (newlines in A) + 1 shows, on its `+` side, exactly line n of the file that apply
    produces (`Edits.spec`, equal to the result of the real apply loop by C02), and line n of the original file is L. -/
theorem diff_plus_line_eq_applied (A L B : Bytes) (EA EB : List Edit) (hs : List Hunk)
    (hAend : A = [] ∨ ∃ A0, A = A0 ++ [10])
    (hLline : ∃ L0, L = L0 ++ [10] ∧ nlCount L0 = 0)
    (hnil : hs ≠ []) (hne : ∀ h ∈ hs, h.content ≠ [])
    (hlb : ∀ h ∈ hs, h.lineBefore = L)
    (hla : ∀ h ∈ hs, h.lineAfter = L.take h.byteOffset ++ h.replace ++ L.drop (h.byteOffset + h.content.length))
    (hA : Consistent A 0 EA) (hL : Consistent L 0 (hs.map toEdit))
    (hnlA : ∀ e ∈ EA, nlCount e.before = 0 ∧ nlCount e.after = 0 ∧ e.start < e.stop)
    (hnlL : ∀ h ∈ hs, nlCount h.content = 0 ∧ nlCount h.replace = 0) :
    ∃ plus, diffAfterText hs = some plus ∧
      lineOf (A ++ (L ++ B)) (nlCount A + 1) = some L ∧
      lineOf (spec (A ++ (L ++ B)) 0 (EA ++ shift A.length (hs.map toEdit ++ shift L.length EB))) (nlCount A + 1)
        = some plus := by
  have hplus := diff_after_eq_spec L hs hnil hne hlb hla hL
  obtain ⟨L0, rfl, h0⟩ := hLline
  refine ⟨_, hplus, lineOf_middle A L0 B hAend h0, ?_⟩
  have hnlE : ∀ e ∈ hs.map toEdit, nlCount e.before = 0 ∧ nlCount e.after = 0 ∧ e.start < e.stop := by
    intro e he
    obtain ⟨h, hh, rfl⟩ := List.mem_map.mp he
    exact ⟨(hnlL h hh).1, (hnlL h hh).2, Nat.lt_add_of_pos_right (List.length_pos_iff.mpr (hne h hh))⟩
  obtain ⟨hblock, hcount⟩ := spec_complete_lines A EA hAend hA hnlA
  obtain ⟨P0, hP, hP0⟩ := spec_one_line L0 (hs.map toEdit) hL hnlE h0
  rw [spec_append A _ 0 EA _ hA, spec_append _ B 0 _ EB hL, hP, ← hcount]
  exact lineOf_middle _ P0 _ hblock hP0

/-- non-vacuity of the file-level statement: second line of a three-line file, hunks on lines 1 and 2 -/
example :
    let A := b!"a foo\n"; let L := b!"é foo, foo;\r\n"; let B := b!"tail\n"
    let mk := fun (c : Nat) =>
      ({ line := 2, byteOffset := c, charOffset := 0, start := 0, stop := 0, content := b!"foo", replace := b!"quux",
         lineBefore := L, lineAfter := L.take c ++ b!"quux" ++ L.drop (c + 3) } : Hunk)
    let EA : List Edit := [{ before := b!"foo", after := b!"quux", start := 2, stop := 5 }]
    diffAfterText [mk 3, mk 8] = some b!"é quux, quux;\r\n" ∧
    spec (A ++ (L ++ B)) 0 (EA ++ shift A.length ([mk 3, mk 8].map toEdit ++ shift L.length []))
      = b!"a quux\né quux, quux;\r\ntail\n" ∧
    lineOf (spec (A ++ (L ++ B)) 0 (EA ++ shift A.length ([mk 3, mk 8].map toEdit ++ shift L.length []))) 2
      = some b!"é quux, quux;\r\n" := by decide +kernel

/-- non-vacuity: three hunks on a CR-LF line with multi-byte text before them, length-changing replacements -/
example :
    let line := b!"é foo_bar, fooBar; FOO_BAR\r\n"
    let mk := fun (c : Nat) (t r : Bytes) =>
      ({ line := 1, byteOffset := c, charOffset := 0, start := c, stop := c + t.length,
         content := t, replace := r, lineBefore := line,
         lineAfter := line.take c ++ r ++ line.drop (c + t.length) } : Hunk)
    diffAfterText [mk 3 b!"foo_bar" b!"a", mk 12 b!"fooBar" b!"alphaBetaGamma", mk 20 b!"FOO_BAR" b!"A"]
      = some b!"é a, alphaBetaGamma; A\r\n" := by decide +kernel

/-- The statement without the disjointness hypothesis is false (`C15_needs_disjoint_hunks`); it mattered for real plans until
    4d2e5a7 (duplicate hunks from overlapping search roots), C03.multi_root_sort_key_unique now rules such plans out: whatever
    hunks a plan lists for a line, the `+` text is what the apply loop makes of that line. -/
def C15_without_disjointness : Prop :=
  ∀ (line : Bytes) (hs : List Hunk), hs ≠ [] → (∀ h ∈ hs, h.lineBefore = line) →
    (∀ h ∈ hs, h.content ≠ [] ∧ h.content <+: line.drop h.byteOffset) →
    (∀ h ∈ hs, h.lineAfter = line.take h.byteOffset ++ h.replace ++ line.drop (h.byteOffset + h.content.length)) →
    ∃ plus, diffAfterText hs = some plus ∧ applyEdits line (hs.map toEdit) = .ok plus

-- what the hypotheses are for (kernel-evaluated, each replayed on the real code by checks/c15.py) ----------

private def dupLine : Bytes := b!"x foo_bar y fooBar tail\n"
private def dupH1 : Hunk :=
  { line := 1, byteOffset := 2, charOffset := 2, start := 2, stop := 9, content := b!"foo_bar",
    replace := b!"baz", lineBefore := dupLine, lineAfter := b!"x baz y fooBar tail\n" }
private def dupH2 : Hunk :=
  { line := 1, byteOffset := 12, charOffset := 12, start := 12, stop := 18, content := b!"fooBar",
    replace := b!"baz", lineBefore := dupLine, lineAfter := b!"x foo_bar y baz tail\n" }

/-- Disjointness is needed: with every hunk listed twice (nested / repeated search roots) the preview
    silently skips the second copy, apply splices it again at the original offsets.  Exactly what the real
    binary did on `renamify plan foo_bar baz . sub` + `apply` before 4d2e5a7. -/
theorem C15_needs_disjoint_hunks :
    diffAfterText [dupH1, dupH1, dupH2, dupH2] = some b!"x baz y baz tail\n" ∧
    applyEdits dupLine [toEdit dupH1, toEdit dupH1, toEdit dupH2, toEdit dupH2] = .ok b!"x bazazil\n" := by decide +kernel

/-- the same, as an inequality between preview and apply (the repaired finding duplicate_hunks_preview_vs_apply) -/
theorem C15_beforefix_duplicate_hunks_preview_vs_apply :
    diffAfterText [dupH1, dupH1, dupH2, dupH2] ≠
      (match applyEdits dupLine [toEdit dupH1, toEdit dupH1, toEdit dupH2, toEdit dupH2] with
       | .ok b => some b | .error _ => none) := by decide +kernel

/-- Consistency with the file (C03) is needed: the literal planner's line-relative offsets, read as file offsets by apply,
    hit a span with the same text.  `renamify replace --no-regex foo foobar` on "foo foo\nfoo\n": the previews show
    `foobar foobar` / `foobar`, apply (exit 0) writes `foobarbfoobarfoo` / `foo`.  Exactly what the real binary did before d278bf5. -/
theorem C15_beforefix_replace_offsets_preview_vs_apply :
    let file := b!"foo foo\nfoo\n"
    let hs := planLiteral false file b!"foo" b!"foobar"
    hs.map (fun h => (h.line, h.start, h.stop, h.lineAfter)) =
      [(1, 0, 3, b!"foobar foo"), (1, 4, 7, b!"foo foobar"), (2, 0, 3, b!"foobar")] ∧
    diffAfterText (hs.take 2) = some b!"foobar foobar" ∧
    applyEdits file (hs.map (fun h => { before := h.content, after := h.replace, start := h.start, stop := h.stop }))
      = .ok b!"foobarbfoobarfoo\nfoo\n" := by decide +kernel

/-- … and when the replacement starts with the searched text the preview itself is wrong twice over -/
theorem C15_witness_duplicate_prefix_extending :
    let l := b!"a foo b\n"
    let h : Hunk := { line := 1, byteOffset := 2, charOffset := 2, start := 2, stop := 5, content := b!"foo", replace := b!"foo_x",
                      lineBefore := l, lineAfter := b!"a foo_x b\n" }
    diffAfterText [h, h] = some b!"a foo_x_x b\n" := by decide +kernel

/-- overlapping hunks: the one further left no longer finds its text and is dropped without notice -/
theorem C15_witness_overlap_skipped :
    let l := b!"abc\n"
    let h1 : Hunk := { line := 1, byteOffset := 0, charOffset := 0, start := 0, stop := 2, content := b!"ab", replace := b!"X",
                       lineBefore := l, lineAfter := b!"Xc\n" }
    let h2 : Hunk := { line := 1, byteOffset := 1, charOffset := 1, start := 1, stop := 2, content := b!"b", replace := b!"YY",
                       lineBefore := l, lineAfter := b!"aYYc\n" }
    diffAfterText [h1, h2] = some b!"aYYc\n" := by decide +kernel

/-- a replacement with a newline: the `+` text is still the splice, but it is two lines, so "the added line
    for line n" is no longer line n of the applied file (line numbers below shift as well) -/
theorem C15_witness_newline_in_replacement :
    let l := b!"a foo b\n"
    let h : Hunk := { line := 1, byteOffset := 2, charOffset := 2, start := 2, stop := 5, content := b!"foo", replace := b!"x\ny",
                      lineBefore := l, lineAfter := b!"a x\ny b\n" }
    diffAfterText [h] = some b!"a x\ny b\n" ∧
    lineOf (spec l 0 [toEdit h]) 1 = some b!"a x\n" := by decide +kernel

/-- a column inside a character (only reachable with hand-made plans, or on lines that are not valid UTF-8): since ac203f2
    the splice is skipped; before, `after_line[col..]` panicked -/
theorem C15_midchar_column_skipped :
    let l := b!"é foo\n"
    let h : Hunk := { line := 1, byteOffset := 1, charOffset := 0, start := 1, stop := 4, content := b!"foo", replace := b!"x",
                      lineBefore := l, lineAfter := l }
    diffAfterText [h, h] = some l := by decide +kernel

/-- … and before ac203f2 the same plan made `render_diff` panic (`after_line[col..]`) -/
theorem C15_beforefix_midchar_panics :
    let l := b!"é foo\n"
    let h : Hunk := { line := 1, byteOffset := 1, charOffset := 0, start := 1, stop := 4, content := b!"foo", replace := b!"x",
                      lineBefore := l, lineAfter := l }
    diffAfterTextOld [h, h] = none := by decide +kernel

/-- checked slicing: the column test itself can no longer panic -/
theorem startsWithAt_total (s : Bytes) (i : Nat) (p : Bytes) : startsWithAt s i p ≠ none := by
  unfold startsWithAt
  split
  · split <;> simp
  · simp

/-- The byte column is needed.  A planner that splices at the CHARACTER offset misses the match as soon as a multi-byte
    character precedes it; the `find` fallback then replaces the first textual occurrence of the variant on the line —
    here the one embedded in `xold_namey` — so the preview shows `xbrand_new_namey é old_name` where apply writes
    `xold_namey é brand_new_name`. -/
theorem C15_witness_char_column :
    let c := b!"xold_namey é old_name\n"
    hunkGeomAtG false false c 14 22 b!"old_name" b!"brand_new_name" =
      .ok { line := 1, byteOffset := 14, charOffset := 13, start := 14, stop := 22, content := b!"old_name",
            replace := b!"brand_new_name", lineBefore := c, lineAfter := b!"xbrand_new_namey é old_name\n" } .fallback ∧
    hunkGeomAtG true false c 14 22 b!"old_name" b!"brand_new_name" =
      .ok { line := 1, byteOffset := 14, charOffset := 13, start := 14, stop := 22, content := b!"old_name",
            replace := b!"brand_new_name", lineBefore := c, lineAfter := b!"xold_namey é brand_new_name\n" } .splice := by decide +kernel

end C15
