import RModel.Base.Lit
import RModel.Model.Exec
import RModel.Lemmas.Exec
import RModel.Lemmas.ExecRollback
/-
  C04 — A failed apply changes nothing.   (property theorems only; model: RModel/Model/Exec.lean)

  Every statement below that mentions a state `s : St` holds for EVERY injection spec `s.inj`
  (`fail k errno`, `crashBefore k`, `crashAfter k`, `crashMid k`, for every k and errno) and every counter value
  `s.n`, because `St` is universally quantified; the proofs are structural inductions over the programs
  (`ExecL.Safe`), not enumerations.

  The property at full strength (`C04_full`) is FALSE for the code as it is (`C04_full_false`, by
  `C04_witness_content_not_rolled_back`: content edits are not rolled back).  Every other `C04_witness_…` is one of the
  listed findings, kernel-evaluated on a concrete scenario under the hypothesis that a flag of Gen/ExecFlags.lean has the
  value it had before the repo commit that repaired the finding; with the flags as translate/execflags.py reads them
  from the source these hypotheses do not hold, and the `…_now` theorems say what the code as it is does on the same
  scenario.  checks/c04.py compares the real binary with the model at every call index.
-/
namespace C04
open Fs Apply Exec ExecL

/-- the part of `apply_plan` that touches the user's tree -/
def core (cfg : Cfg) (plan : Plan) : M (List (Path × Path)) := do
  contentLoop cfg plan.hunks (sortedFiles plan.hunks)
  renameLoop cfg [] (sortRens plan.rens)

/-- the guard of `success_complete`, decidable by running; `free` is what the pre-flight establishes (C05) -/
structure G04 (t0 : Tree) (plan : Plan) : Prop where
  nodup : NodupKeys t0
  fresh : ∀ f ∈ sortedFiles plan.hunks, lookup t0 (tmpPath f) = none
  free : ∀ t1, contentPhase plan.hunks t0 (sortedFiles plan.hunks) = (.ok, t1) → FreeAlong t1 [] (sortRens plan.rens)

/-- success_complete (tree part): with no fault injected, whenever content + rename phase end normally the tree is
    EXACTLY the one `Apply.applyPlan`'s two phases compute (the object of C02/C02ren), and the recorded renames agree -/
theorem success_complete (cfg : Cfg) (plan : Plan) (t0 : Tree) (g : G04 t0 plan) (s : St)
    (hinj : s.inj = .none) (ht : s.t = t0) (perf : List (Path × Path)) (s' : St)
    (hrun : core cfg plan s = .ok perf s') :
    ∃ t1, contentPhase plan.hunks t0 (sortedFiles plan.hunks) = (.ok, t1) ∧
      renamePhase t1 [] (sortRens plan.rens) = { outcome := .ok, tree := s'.t, performed := perf } := by
  have h : Exact (fun t => t = t0) (core cfg plan)
      (fun perf t => ∃ t1, contentPhase plan.hunks t0 (sortedFiles plan.hunks) = (.ok, t1) ∧
        renamePhase t1 [] (sortRens plan.rens) = { outcome := .ok, tree := t, performed := perf }) := by
    refine (contentLoop_exact _ cfg plan.hunks _ t0 g.nodup g.fresh).bind (fun _ => ?_)
    refine Run.of_forall_tree (fun t1 h1 => ?_)
    exact (renameLoop_exact _ cfg _ [] [] t1 (g.free _ h1)).weaken (fun _ h => h) (fun _ _ h => ⟨t1, h1, h⟩)
  have := h s True.intro ht
  rw [hrun] at this
  exact this.2

/-- success_complete (record part): the bytes `History::save` writes parse back to the earlier entries plus exactly one -/
theorem success_records_one_entry (es : Bytes) (e : UInt8) : parseHist (encodeHist (es ++ [e])) = some (es ++ [e]) :=
  parseHist_encode _

/-- validation_first_file_clean: a stale or unreadable FIRST file stops the content phase with the tree untouched,
    under every fault/crash point (only log lines were issued) -/
theorem validation_first_file_clean (cfg : Cfg) (hs : List Hunk) (f : Path) (fs : List Path) (c : Bytes) (m : Nat)
    (e : Edits.Err) (t0 : Tree) (hl : lookup t0 f = some (.file c m))
    (hstale : Edits.applyEdits c (editsFor hs f) = .error e) (s : St) (ht : s.t = t0) :
    (contentLoop cfg hs (f :: fs) s).st.t = t0 ∧ outcome (contentLoop cfg hs (f :: fs) s) ≠ .ok := by
  have h : Safe (fun t => t = t0) (fun t => t = t0) (contentLoop cfg hs (f :: fs)) (fun _ _ => False) := by
    unfold contentLoop contentLoopF
    refine Run.read (fun a ha => ?_)
    subst ha
    simp only [hl]
    split
    · exact Run.throw _
    · have hed : Safe (fun t => t = a) (fun t => t = a)
          (editOneF ExecFlags.tempRemovedOnFailure cfg hs f c m) (fun _ _ => False) := by
        unfold editOneF
        rw [hstale]
        refine (safe_logM cfg).bind (fun _ => ?_)
        cases e <;> exact Run.throw _
      refine hed.tryCatch.bind (fun r => ?_)
      cases r with
      | none => exact fun _ _ hp => hp.elim
      | some e' =>
        exact (safe_logM cfg).bind (fun _ => (safe_rollback_nil cfg).bind (fun _ => Run.throw _))
  have := h s True.intro ht
  revert this
  cases contentLoop cfg hs (f :: fs) s with
  | ok a s' => exact fun h => h.2.elim
  | err e' s' => exact fun h => ⟨h.2, fun ho => by cases e' <;> cases ho⟩
  | crash s' => exact fun h => ⟨h, fun ho => by cases ho⟩

/-- ANY refusal of the pre-flight loop, the shared-destination one of repo commit 01297aa included: no call is issued,
    the state is the initial one -/
theorem preflight_refusal_changes_nothing (id : Bytes) (entry : UInt8) (plan : Plan) (s : St) (o : Apply.Outcome)
    (h : preflight s.t [] plan.rens = some o) :
    applyPlanBody { log := none, id := id, entry := entry } plan s = .err .destExists s := by
  -- without a log file no call precedes the pre-flight, which reads the initial tree
  show (if (preflight s.t [] plan.rens).isSome = true then (Exec.throw .destExists : M Unit) else _) s = _
  rw [h]
  rfl

/-- preflight_changes_nothing (the command without a log file, `replace`): an occupied destination is refused before
    any call is issued -/
theorem preflight_changes_nothing (id : Bytes) (entry : UInt8) (plan : Plan) (s : St)
    (h : preflightOk s.t plan.rens = false) :
    applyPlanBody { log := none, id := id, entry := entry } plan s = .err .destExists s := by
  cases hp : preflight s.t [] plan.rens with
  | some o => exact preflight_refusal_changes_nothing id entry plan s o hp
  | none => rw [RenamePhase.preflightOk_of_none _ _ hp] at h; cases h

/-- failure_reports_failure_partial: for EVERY fault index k and every I/O errno (other than the two that
    `create_dir_all` interprets), if the content phase and the rename phase end normally then the fault point has not
    been reached: an error injected at any call of these two phases — temp-file calls, renames, and log lines as long
    as `state.log(…)?` propagates their errors (`LogReports`: with the repair `logErrorsIgnored` a log line that
    cannot be written is deliberately NOT a failure) — is never swallowed into success.  (The swallowing sites lie
    outside: `C04_witness_history_write_swallowed`, `C04_witness_probe_left`, the lock release and the removal of
    plan.json.) -/
theorem failure_reports_failure_partial (cfg : Cfg) (plan : Plan) (k : Nat) (e : Errno) (s s' : St)
    (perf : List (Path × Path)) (hlog : LogReports cfg) (hinj : s.inj = .fail k e) (he1 : e ≠ .ENOENT) (he2 : e ≠ .EEXIST)
    (hn : s.n ≤ k) (hrun : core cfg plan s = .ok perf s') : s'.n ≤ k := by
  have hk := stable_notYet k e hlog
  have h : Reports k e (core cfg plan) :=
    (keeps_contentLoop hk _ plan.hunks _).bind (fun _ => keeps_renameLoop hk _ _ _ _)
  have := h s ⟨hinj, hn⟩ True.intro
  rw [hrun] at this
  exact this.1.2

/-- late_refusal_changes_nothing: with the unconditional up-front guard (`applyPlanMF true`, repo commit c3d511b) a plan
    whose id is already recorded — applied, undone or redone, it does not matter — is refused before ANY call is issued:
    the state is returned as it was, for every plan, tree and injection spec -/
theorem late_refusal_changes_nothing (cfg : Cfg) (plan : Plan) (s : St) (hfresh : cfg.freshId = false)
    (hdup : (loadHist s.t).contains cfg.entry = true) : applyPlanMF true cfg plan s = .err .dupId s := by
  show (if (true && !cfg.freshId && (loadHist s.t).contains cfg.entry) = true then Exec.throw .dupId
    else applyPlanBody cfg plan) s = _
  rw [hfresh, hdup]
  rfl

/-- the structural tie: the model is built with the up-front guard because the source has it, unconditionally
    (`if History::load(renamify_dir)?.find_entry(&plan.id).is_some()` ahead of `ApplyState::new`, read by
    translate/execflags.py); a guard that is removed or made conditional breaks this theorem -/
theorem dup_id_guard_flag : ExecFlags.dupIdRefusedUpFront = true := by decide

/-- failure_reports_failure (call level): a failure injected at a call that is issued through `doOp` comes back as an
    error value; whether the PROGRAM then reports it depends on the call site — the swallowing sites are the witnesses
    `C04_witness_history_write_swallowed`, `C04_witness_probe_left`; for every other k the real binary is compared
    with the model by checks/c04.py -/
theorem failure_reports_failure_call (op : Op) (s : St) (e : Errno) (h : s.inj = .fail s.n e) :
    ∃ s', doOp op s = .err (.io e) s' ∧ s'.t = s.t :=
  ⟨_, doOp_fail_due h, rfl⟩

/-- rollback_restores_paths: reverting the renames AS THEY WERE EXECUTED, in reverse order (what `rollback` does with
    the repair `rollbackRealPairs`), restores the tree EXACTLY — for every tree and every list of renames, nested
    directories included, under the decidable guard `RevAlong` (each rename went onto a free name with nothing below
    it; the source's parent is still there).  With the recorded (original-from, adjusted-to) pairs this is false for
    nested directories: `C04_witness_rollback_nested`. -/
theorem rollback_restores_paths (t tn : Tree) (l : List (Path × Path)) (hexec : execAll t l = some tn)
    (hg : RevAlong t l) : Apply.rollback tn l.reverse none = (t, none) :=
  rollback_restores (executed_of_guard hexec hg)

/-- C04 restricted to the rename phase, at PROGRAM level, for the repaired code (`renameLoopF true`: rollback with the
    pairs as executed; `LogQuiet`: log errors ignored or no log file): for every plan, every tree and EVERY fault index k
    and errno, one injected failure anywhere in the rename phase — at any rename, at any log line — makes the phase either
    end normally or report the failure with the tree EXACTLY as it was when the phase started (nested directories
    included); it never crashes.  Guard `phaseOkB` (decidable by running): the fault-free phase succeeds, every rename
    goes onto a free name with nothing below it. -/
theorem rename_phase_failure_restores (cfg : Cfg) (hlq : LogQuiet cfg) (rs : List Ren) (t0 : Tree)
    (hg : phaseOkB t0 [] rs = true) (k : Nat) (e : Errno) (s : St) (hi : s.inj = .fail k e) (ht : s.t = t0) :
    match renameLoopF true cfg [] [] rs s with
    | .ok _ _ => True
    | .err _ s' => s'.t = t0
    | .crash _ => False := by
  have h := renameLoop_pending k e cfg hlq t0 rs [] [] t0 .nil hg s hi ht
  revert h
  cases renameLoopF true cfg [] [] rs s with
  | ok a s' => exact fun _ => True.intro
  | err f s' => exact fun h => h.2.2
  | crash s' => exact id

/-- a single rename onto a free name is undone exactly by the opposite rename -/
theorem rename_undone (t t' : Tree) (a b : Path) (h : Fs.rename t a b = .ok t') (hab : a ≠ b)
    (hfree : lookup t b = none) (hunder : ∀ e ∈ t, pre b e.1 = false) (hpar : parentOk t' a = .ok ()) :
    Fs.rename t' b a = .ok t :=
  rename_inverse h hunder hpar

/-! ### concrete scenarios (kernel evaluated)

  The witnesses run the command BODIES (`bodyApply`, `bodyRename`: everything between taking and releasing the
  workspace lock), so the call indices do not depend on how the lock is taken.  An index k is the position of the call
  in the fault-free run's `St.trace` (kept newest first, so: in its reverse), counted from 0; a log line is one call. -/

def meta0 : Tree :=
  [ ([dotR], .dir 0o755), (pHist, .file (encodeHist [entryOld]) 0o644), (pPlanJson, .file blob 0o644) ]
def tA : Tree := [ ([b!"a.txt"], .file b!"foo" 0o644), ([b!"b.txt"], .file b!"foo" 0o600) ] ++ meta0
def plA : Plan :=
  { hunks := [ { file := [b!"a.txt"], before := b!"foo", after := b!"bar", start := 0, stop := 3 },
               { file := [b!"b.txt"], before := b!"foo", after := b!"bar", start := 0, stop := 3 } ], rens := [] }
/-- the same tree after somebody edited `b.txt` behind the plan's back -/
def tAstale : Tree := [ ([b!"a.txt"], .file b!"foo" 0o644), ([b!"b.txt"], .file b!"xfoo" 0o600) ] ++ meta0
def tN : Tree :=
  [ ([b!"foo"], .dir 0o755), ([b!"foo", b!"foo"], .dir 0o755), ([b!"foo", b!"foo", b!"foo.txt"], .file b!"x" 0o644) ] ++ meta0
def plN : Plan :=
  { hunks := [], rens := [ { path := [b!"foo"], newPath := [b!"bar"], kind := .dir },
      { path := [b!"foo", b!"foo"], newPath := [b!"foo", b!"bar"], kind := .dir },
      { path := [b!"foo", b!"foo", b!"foo.txt"], newPath := [b!"foo", b!"foo", b!"bar.txt"], kind := .file } ] }

def fileAt (r : Res Unit) (p : Path) : Option Node := lookup r.st.t p

/-- the property at full strength: whenever a command does not report success, the user's tree and the history are
    exactly as before.  FALSE today (`C04_full_false`). -/
def C04_full : Prop :=
  ∀ (plan : Plan) (t : Tree) (inj : Inj), (∀ k, inj ≠ .crashBefore k ∧ inj ≠ .crashAfter k ∧ inj ≠ .crashMid k) →
    outcome (run (cmdApply plan) t inj) ≠ .ok →
      userTree (run (cmdApply plan) t inj).st.t = userTree t ∧ loadHist (run (cmdApply plan) t inj).st.t = loadHist t

/-- non-vacuity and the fault-free case, for the whole command -/
theorem success_complete_example :
    outcome (run (bodyApply plA) tA .none) = .ok ∧
    userTree (run (bodyApply plA) tA .none).st.t = userTree (applyPlan tA plA).tree ∧
    loadHist (run (bodyApply plA) tA .none).st.t = [entryOld, entryApply] ∧
    fileAt (run (bodyApply plA) tA .none) (pStored idNew) = some (.file blob 0o644) := by decide +kernel

/-- finding content_not_rolled_back: the second file is stale; the command fails, `a.txt` stays rewritten, no entry -/
theorem C04_witness_content_not_rolled_back :
    outcome (run (bodyApply plA) tAstale .none) = .fail ∧
    fileAt (run (bodyApply plA) tAstale .none) [b!"a.txt"] = some (.file b!"bar" 0o644) ∧
    loadHist (run (bodyApply plA) tAstale .none).st.t = [entryOld] := by decide +kernel

/-- finding tmp_left_behind: `write a.PID.renamify.tmp` (call 6) fails; the empty temp file stays in the user's tree -/
theorem C04_witness_tmp_left : ExecFlags.tempRemovedOnFailure = false →
    outcome (run (bodyApply plA) tA (.fail 6 .EIO)) = .fail ∧
    fileAt (run (bodyApply plA) tA (.fail 6 .EIO)) (tmpPath [b!"a.txt"]) = some (.file [] 0o644) := by decide +kernel

/-- finding late_failure_no_rollback: `openw history.json` (call 29) fails; failure is reported with the whole plan
    applied and nothing recorded -/
theorem C04_witness_history_fail : ExecFlags.historyEntryIsCommitPoint = false →
    outcome (run (bodyApply plA) tA (.fail 29 .EIO)) = .fail ∧
    userTree (run (bodyApply plA) tA (.fail 29 .EIO)).st.t = userTree (applyPlan tA plA).tree ∧
    loadHist (run (bodyApply plA) tA (.fail 29 .EIO)).st.t = [entryOld] := by decide +kernel

/-- finding history_write_failure_swallowed: `write history.json` (call 30) fails; SUCCESS is reported, history.json is
    empty: the earlier entry is gone and the new one was never recorded -/
theorem C04_witness_history_write_swallowed : ExecFlags.atomicHistorySave = false →
    outcome (run (bodyApply plA) tA (.fail 30 .EIO)) = .ok ∧
    fileAt (run (bodyApply plA) tA (.fail 30 .EIO)) pHist = some (.file [] 0o644) ∧
    loadHist (run (bodyApply plA) tA (.fail 30 .EIO)).st.t = [] := by decide +kernel

/-- finding failure_after_history_recorded: `mkdir .renamify/plans` (call 31) fails after the entry was written -/
theorem C04_witness_failure_after_history : ExecFlags.atomicHistorySave = false →
    outcome (run (bodyApply plA) tA (.fail 31 .EIO)) = .fail ∧
    loadHist (run (bodyApply plA) tA (.fail 31 .EIO)).st.t = [entryOld, entryApply] := by decide +kernel

/-- finding rollback_nested_fails: the third rename (call 17) fails; rollback cannot move `bar/bar` back to `foo/foo`
    because `foo` does not exist yet, and the tree is left as `foo/bar/foo.txt` -/
theorem C04_witness_rollback_nested : ExecFlags.rollbackRealPairs = false →
    outcome (run (bodyApply plN) tN (.fail 17 .EIO)) = .fail ∧
    fileAt (run (bodyApply plN) tN (.fail 17 .EIO)) [b!"foo", b!"bar", b!"foo.txt"] = some (.file b!"x" 0o644) ∧
    fileAt (run (bodyApply plN) tN (.fail 17 .EIO)) [b!"foo", b!"foo", b!"foo.txt"] = none := by decide +kernel

/-- the calls of `apply` on the nested scenario (0–36) whose failure is not a failure of the command: log lines, the
    removal of plan.json -/
def quietCallsN : List Nat := [2, 3, 4, 6, 7, 8, 9, 11, 12, 13, 14, 15, 16, 18, 19, 25, 26, 30, 35, 36]

/-- the code as it is on the nested scenario, one evaluation per call index: an injected failure at one of these calls
    is dropped, and the command succeeds with the whole plan applied and recorded; at any other call (directories,
    renames, patches, stored plan, history) the command fails, with the user's tree and the history exactly as they
    were and no stored plan left behind.  The scenario theorems below are instances. -/
theorem nested_single_failure :
    ExecFlags.historyEntryIsCommitPoint = true → ExecFlags.rollbackRealPairs = true →
    ExecFlags.logErrorsIgnored = true → ExecFlags.atomicHistorySave = true →
    ∀ k ∈ List.range 37,
      if k ∈ quietCallsN then
        outcome (run (bodyApply plN) tN (.fail k .EIO)) = .ok ∧
        userTree (run (bodyApply plN) tN (.fail k .EIO)).st.t = userTree (applyPlan tN plN).tree ∧
        loadHist (run (bodyApply plN) tN (.fail k .EIO)).st.t = [entryOld, entryApply]
      else
        outcome (run (bodyApply plN) tN (.fail k .EIO)) = .fail ∧
        userTree (run (bodyApply plN) tN (.fail k .EIO)).st.t = userTree tN ∧
        loadHist (run (bodyApply plN) tN (.fail k .EIO)).st.t = [entryOld] ∧
        fileAt (run (bodyApply plN) tN (.fail k .EIO)) (pStored idNew) = none := by decide +kernel

/-- rollback_restores_paths (partial, non-nested instance): the SECOND rename (call 10) fails; the one rename done so
    far is reverted and every path is back -/
theorem rollback_restores_paths_example :
    outcome (run (bodyApply plN) tN (.fail 10 .EIO)) = .fail ∧
    userTree (run (bodyApply plN) tN (.fail 10 .EIO)).st.t = userTree tN :=
  have h := (if_neg (by decide)).mp (nested_single_failure (by decide) (by decide) (by decide) (by decide) 10 (by decide))
  ⟨h.1, h.2.1⟩

/-- finding log_failure_skips_rollback: the log line "Adjusted rename source" (call 7) fails; `foo` stays renamed -/
theorem C04_witness_log_skips_rollback : ExecFlags.logErrorsIgnored = false →
    outcome (run (bodyApply plN) tN (.fail 7 .EIO)) = .fail ∧
    fileAt (run (bodyApply plN) tN (.fail 7 .EIO)) [b!"bar", b!"foo", b!"foo.txt"] = some (.file b!"x" 0o644) := by
  decide +kernel

/-- finding probe_dir_left_behind: removing the case-probe file (call 3 of the body of `rename`) fails; success is reported and
    `.tmpRAND/test_case_a` stays in the user's tree -/
theorem C04_witness_probe_left : ExecFlags.probeCleanupRetried = false →
    outcome (run (bodyRename plA) (tA.take 2) (.fail 3 .EIO)) = .ok ∧
    fileAt (run (bodyRename plA) (tA.take 2) (.fail 3 .EIO)) pProbeFile = some (.file b!"test" 0o644) := by decide +kernel

/-- the stale scenario of the finding `stale_panic` (repaired by repo commit 29e3f64): `b.txt` was cut down to one byte behind the plan's back -/
def tAcut : Tree := [ ([b!"a.txt"], .file b!"foo" 0o644), ([b!"b.txt"], .file b!"f" 0o600) ] ++ meta0

/-- BEFORE repo commit 29e3f64 (unchecked slices, `Edits.applyEditsOld`): offsets past the end of the file panic
    (exit status 101; also C16) -/
theorem stale_offsets_panicked_before_29e3f64 :
    Edits.applyEditsOld b!"f" [{ before := b!"foo", after := b!"bar", start := 0, stop := 3 }] = .error .panic := by
  decide +kernel

/-- … and the code as it is reports the same stale plan as a content mismatch -/
theorem stale_offsets_mismatch_now :
    Edits.applyEdits b!"f" [{ before := b!"foo", after := b!"bar", start := 0, stop := 3 }] = .error .mismatch := by
  decide +kernel

/-- the whole command on that scenario: a reported failure, no panic (what remains is `content_not_rolled_back`:
    `a.txt`, processed before the stale `b.txt`, stays rewritten) -/
theorem stale_offsets_fail_cleanly_example :
    outcome (run (bodyApply plA) tAcut .none) = .fail ∧
    fileAt (run (bodyApply plA) tAcut .none) [b!"b.txt"] = some (.file b!"f" 0o600) ∧
    fileAt (run (bodyApply plA) tAcut .none) [b!"a.txt"] = some (.file b!"bar" 0o644) := by decide +kernel

/-- the edit loop as it is never panics, whatever the plan says (all contents, all edit lists) -/
theorem edits_never_panic (c : Bytes) (es : List Edits.Edit) : Edits.applyEdits c es ≠ .error .panic :=
  Edits.applyEdits_ne_panic c es

/-- the two tree phases never panic: under every fault and crash point, for every plan and tree, the content phase
    followed by the rename phase does not end in a panic (exit status 101) -/
theorem core_never_panics (cfg : Cfg) (plan : Plan) (s s' : St) : core cfg plan s ≠ .err .panic s' := by
  have hk := stable_any cfg
  have h : Keeps Any (core cfg plan) :=
    (keeps_contentLoop hk _ plan.hunks _).bind (fun _ => keeps_renameLoop hk _ _ _ _)
  intro hx
  have := h s True.intro True.intro
  rw [hx] at this
  exact this.2 rfl

/-- the model's `applyEdits` is the checked variant exactly when the source checks its slices (flag read by
    translate/execflags.py from apply_content_edits_with_content) -/
theorem offsets_checked_flag : ExecFlags.offsetsChecked = true := by decide

/-- non-vacuity of `rollback_restores_paths` on the NESTED scenario: the three executed renames satisfy the guard, and
    the theorem's conclusion is the kernel-evaluated fact -/
theorem rollback_restores_paths_nested_example :
    RevAlong tN (execOf [] (sortRens plN.rens)) ∧
    (execAll tN (execOf [] (sortRens plN.rens))).isSome = true ∧
    execOf [] (sortRens plN.rens) =
      [ ([b!"foo"], [b!"bar"]), ([b!"bar", b!"foo"], [b!"bar", b!"bar"]),
        ([b!"bar", b!"bar", b!"foo.txt"], [b!"bar", b!"bar", b!"bar.txt"]) ] := by
  unfold RevAlong
  decide +kernel

/-- non-vacuity of `rename_phase_failure_restores`: the nested scenario satisfies its guard -/
theorem rename_phase_guard_nested_example : phaseOkB tN [] (sortRens plN.rens) = true := by decide +kernel

/-- finding failure_after_history_recorded at the code with the atomic history save but the old order (entry, then
    stored plan): `mkdir .renamify/plans` (call 32) fails after the entry was written -/
theorem C04_witness_failure_after_history_head :
    ExecFlags.atomicHistorySave = true → ExecFlags.historyEntryIsCommitPoint = false →
    outcome (run (bodyApply plA) tA (.fail 32 .EIO)) = .fail ∧
    loadHist (run (bodyApply plA) tA (.fail 32 .EIO)).st.t = [entryOld, entryApply] := by decide +kernel

/-! ### the repairs (each conditional on the flag that translate/execflags.py reads from the repaired source) -/

/-- repair `rollbackRealPairs`: the failing third rename of the nested scenario (call 17) is now rolled back completely -/
theorem rollback_nested_restores_now : ExecFlags.rollbackRealPairs = true →
    outcome (run (bodyApply plN) tN (.fail 17 .EIO)) = .fail ∧
    userTree (run (bodyApply plN) tN (.fail 17 .EIO)).st.t = userTree tN ∧
    loadHist (run (bodyApply plN) tN (.fail 17 .EIO)).st.t = [entryOld] := fun hr =>
  have h := (if_neg (by decide)).mp (nested_single_failure (by decide) hr (by decide) (by decide) 17 (by decide))
  ⟨h.1, h.2.1, h.2.2.1⟩

/-- repair `logErrorsIgnored`: a log line that cannot be written (call 7, "Adjusted rename source") is dropped; the
    command goes on and succeeds with the whole plan applied and recorded -/
theorem log_failure_is_no_failure_now : ExecFlags.logErrorsIgnored = true →
    outcome (run (bodyApply plN) tN (.fail 7 .EIO)) = .ok ∧
    userTree (run (bodyApply plN) tN (.fail 7 .EIO)).st.t = userTree (applyPlan tN plN).tree ∧
    loadHist (run (bodyApply plN) tN (.fail 7 .EIO)).st.t = [entryOld, entryApply] := fun hl =>
  (if_pos (by decide)).mp (nested_single_failure (by decide) (by decide) hl (by decide) 7 (by decide))

/-- repair `historyEntryIsCommitPoint` (+ `rollbackRealPairs`): failures after the rename phase — creating the backup
    directory (call 22), writing the stored plan (call 29), publishing the history entry (call 34) — roll the three
    nested renames back, leave the history as it was and no stored plan behind -/
theorem late_failure_rolls_back_now :
    ExecFlags.historyEntryIsCommitPoint = true → ExecFlags.rollbackRealPairs = true → ExecFlags.atomicHistorySave = true →
    ∀ k ∈ [22, 29, 34],
      outcome (run (bodyApply plN) tN (.fail k .EIO)) = .fail ∧
      userTree (run (bodyApply plN) tN (.fail k .EIO)).st.t = userTree tN ∧
      loadHist (run (bodyApply plN) tN (.fail k .EIO)).st.t = [entryOld] ∧
      fileAt (run (bodyApply plN) tN (.fail k .EIO)) (pStored idNew) = none := fun hc hr ha k hk =>
  have hk' := (by decide +kernel : ∀ k ∈ [22, 29, 34], k ∈ List.range 37 ∧ k ∉ quietCallsN) k hk
  (if_neg hk'.2).mp (nested_single_failure hc hr (by decide) ha k hk'.1)

/-- … and on that scenario EVERY single injected failure (calls 0–36) either is not a failure of the command (log
    lines, the removal of plan.json: success, everything applied and recorded) or leaves the user's tree and the
    history exactly as they were: `C04_full` holds on a plan without content edits -/
theorem C04_full_on_rename_only_scenario_now :
    ExecFlags.historyEntryIsCommitPoint = true → ExecFlags.rollbackRealPairs = true →
    ExecFlags.logErrorsIgnored = true → ExecFlags.atomicHistorySave = true →
    ∀ k ∈ List.range 37,
      (outcome (run (bodyApply plN) tN (.fail k .EIO)) = .ok ∧
        userTree (run (bodyApply plN) tN (.fail k .EIO)).st.t = userTree (applyPlan tN plN).tree ∧
        loadHist (run (bodyApply plN) tN (.fail k .EIO)).st.t = [entryOld, entryApply]) ∨
      (outcome (run (bodyApply plN) tN (.fail k .EIO)) = .fail ∧
        userTree (run (bodyApply plN) tN (.fail k .EIO)).st.t = userTree tN ∧
        loadHist (run (bodyApply plN) tN (.fail k .EIO)).st.t = [entryOld]) := fun hc hr hl ha k hk =>
  have h := nested_single_failure hc hr hl ha k hk
  if hq : k ∈ quietCallsN then Or.inl ((if_pos hq).mp h)
  else have h := (if_neg hq).mp h; Or.inr ⟨h.1, h.2.1, h.2.2.1⟩

/-- repair `probeCleanupRetried`: the failed removal of the probe file (call 3) is retried; nothing stays behind -/
theorem probe_cleanup_retried_now : ExecFlags.probeCleanupRetried = true →
    outcome (run (bodyRename plA) (tA.take 2) (.fail 3 .EIO)) = .ok ∧
    fileAt (run (bodyRename plA) (tA.take 2) (.fail 3 .EIO)) pProbeFile = none ∧
    fileAt (run (bodyRename plA) (tA.take 2) (.fail 3 .EIO)) pProbe = none := by decide +kernel

/-- the state after `plan; apply; undo`: the tree is back as planned, the history holds the entry and its revert -/
def tAundone : Tree :=
  [ ([b!"a.txt"], .file b!"foo" 0o644), ([b!"b.txt"], .file b!"foo" 0o600) ] ++
  [ ([dotR], .dir 0o755), (pHist, .file (encodeHist [entryOld, entryApply, entryUndo]) 0o644) ]

/-- WITHOUT the up-front guard (`applyPlanMF false`: the guard removed, or — for an undone entry — made conditional as
    in seeded/C04c) re-applying the stored plan of an undone operation edits both files and only then fails in
    `add_entry`: a failed apply that changed the tree, with no fault injected and no stale file -/
theorem late_dup_refusal_witness :
    outcome (applyPlanMF false { log := some (pLogFile idNew), id := idNew, entry := entryApply } plA
      { t := tAundone }) = .fail ∧
    lookup (applyPlanMF false { log := some (pLogFile idNew), id := idNew, entry := entryApply } plA
      { t := tAundone }).st.t [b!"a.txt"] = some (.file b!"bar" 0o644) ∧
    loadHist (applyPlanMF false { log := some (pLogFile idNew), id := idNew, entry := entryApply } plA
      { t := tAundone }).st.t = [entryOld, entryApply, entryUndo] := by decide +kernel

/-- … and with the guard the same command issues no call at all -/
theorem late_dup_refusal_example :
    outcome (run (bodyReapply plA) tAundone .none) = .fail ∧
    (run (bodyReapply plA) tAundone .none).st.t = tAundone ∧
    (run (bodyReapply plA) tAundone .none).st.trace = [] := by decide +kernel

/-- the tree-level model (`Apply.rollbackList`, used by C02/C01/C05) and this model agree on which pairs `rollback`
    walks: the executed pairs reconstructed from the recorded ones are the pairs the rename loop executed -/
theorem executed_pairs_agree_example :
    Apply.executedFrom [] (perfOf [] (sortRens plN.rens)) = execOf [] (sortRens plN.rens) := by decide +kernel

theorem C04_full_false : ¬ C04_full := by
  intro h
  have hw : outcome (run (cmdApply plA) tAstale .none) ≠ .ok ∧
      userTree (run (cmdApply plA) tAstale .none).st.t ≠ userTree tAstale := by decide +kernel
  exact hw.2 (h plA tAstale .none (fun _ => ⟨nofun, nofun, nofun⟩) hw.1).1

-- non-vacuity of the guards
set_option maxRecDepth 100000 in
example : NodupKeys tA ∧ (∀ f ∈ sortedFiles plA.hunks, lookup tA (tmpPath f) = none) := by
  refine ⟨by unfold NodupKeys; decide +kernel, ?_⟩
  decide +kernel

end C04
