import RModel.Model.Lock
import RModel.Lemmas.Lock
import RModel.Lemmas.LockGuard
import RModel.Gen.LockUsers
/-
  C12 — the workspace lock gives mutual exclusion.                       (property theorems only)

  Model: `RModel/Model/Lock.lean` — N processes, one lock path with inode identity, a seconds clock,
  pid liveness; one transition = one system call (plus the clock/`kill(pid,0)` decision) of one process.
  A schedule is a list of events (`proc p` = the next call of process p, `tick d` = d seconds pass);
  the theorems quantify over ALL schedules by induction (an inductive invariant, `Lock.Inv`), for any N.

  What holds (theorems):   starting with no lock file, or with a scheduled live holder, while nobody is
  older than 300 s, and either terminated processes linger or there are at most two processes:
  at most one process owns the lock at any time, its file is never unlinked by anybody else, a process
  whose acquire failed never enters, and when nobody owns the lock the file is gone.
  What does not hold (kernel-evaluated witnesses with explicit schedules): everything else the property
  asks for — see `C12_full` (a `def`, refuted by `C12_full_false`).  The witnesses are stated for explicit
  variants of the acquire/drop code (flags of `Lock.State`); which variant /repo has is regenerated into
  `Gen.LockUsers` and pinned by the theorems of the last section (`mutex_absent_source`, `all_mutators_lock`,
  `drop_is_content_checked`, …).  The defects that were repaired in /repo are kept as theorems about the old
  variants here (model) and in `Props/C12Findings.lean` (old lock-user table).
-/
namespace C12
open Lock

def AtMostOneHolder (s : State) : Prop := ∀ p q, s.pc p = .holding → s.pc q = .holding → p = q
def AtMostOneOwner (s : State) : Prop := ∀ p q, (s.pc p).owns = true → (s.pc q).owns = true → p = q
/-- every owner's file is the one linked at the lock path (nobody removed or replaced it) -/
def OwnersLinked (s : State) : Prop := ∀ p, (s.pc p).owns = true → s.cell = some (inoOf p)
def Quiescent (s : State) : Prop := ∀ p, (s.pc p).owns = false
def Safe (s : State) : Prop :=
  AtMostOneHolder s ∧ AtMostOneOwner s ∧ OwnersLinked s ∧ s.stolen = false ∧ (Quiescent s → s.cell = none)

/-- the five initial lock states of the property's quantifier -/
inductive Init
  | absent
  | stale (pid age : Nat)        -- "pid:now-age" with age > 300 (pid dead or alive)
  | orphaned (age : Nat)         -- dead pid, age ≤ 300
  | malformed (c : Content)      -- empty, text without exactly one ':', or not UTF-8
  | held (age : Nat)             -- process 0 is inside its command since `now - age`

def Init.wf : Init → Prop
  | .absent => True
  | .stale _ age => age > staleTimeout
  | .orphaned age => age ≤ staleTimeout
  | .malformed c => c = .empty ∨ c = .garbage ∨ c = .invalid
  | .held _ => True

def Init.state0 (n now : Nat) (debug exits : Bool) : Init → State
  | .absent => initAbsent n now debug exits
  | .stale pid age => initFile n now debug exits (.pidts pid (now - age))
  | .orphaned age => initFile n now debug exits (.pidts orphanPid (now - age))
  | .malformed c => initFile n now debug exits c
  | .held age => initHeld n now debug exits (now - age)

/-- the source variant: which unparsable lock files are removed (`ab`), lock file published complete (`ap`) -/
def variant (ab : Abandon) (ap : Bool) (s : State) : State := { s with abandon := ab, atomicPublish := ap }

def Init.state (n now : Nat) (debug exits : Bool) (ab : Abandon) (ap : Bool) (i : Init) : State :=
  variant ab ap (i.state0 n now debug exits)

/-- C12 at full strength: from each of the five initial states, for any number of processes, either
    build, processes leaving when they are done, and EVERY schedule: mutual exclusion, no foreign
    unlink, lock gone when nobody owns it, nobody crashes.  It quantifies over every variant of `acquire`
    (`ab`, `ap`); `C12_full_false` refutes it in the variant `.none`/`false` (no unparsable file removed, lock
    file created empty: the source before repo commit 35d666f), by the orphan race. -/
def C12_full : Prop :=
  ∀ (i : Init), i.wf → ∀ (n now : Nat), 1000 ≤ now → ∀ (debug : Bool) (ab : Abandon) (ap : Bool) (es : List Ev),
    Safe (run (i.state n now debug true ab ap) es) ∧ ∀ p, (run (i.state n now debug true ab ap) es).pc p ≠ .panicked

/-- … and the liveness half shared with C11: a leftover lock file never blocks the next command. -/
def C12_never_blocked : Prop :=
  ∀ (i : Init), i.wf → (∀ age, i ≠ .held age) → ∀ (now : Nat), 1000 ≤ now → ∀ debug ap,
    ∃ es, (run (i.state 1 now debug true .none ap) es).pc 0 = .holding

theorem holder_of_owner {s : State} (h : AtMostOneOwner s) : AtMostOneHolder s :=
  fun p q hp hq => h p q (by rw [hp]; rfl) (by rw [hq]; rfl)

theorem safe_of_inv {T t0 : Nat} {s : State} (h : Inv T t0 s) : Safe s :=
  ⟨holder_of_owner h.owners_unique, h.owners_unique, h.owner_linked, h.notStolen, h.released⟩

theorem inv_initAbsent (n now : Nat) (debug exits : Bool) (ab : Abandon) (ap : Bool)
    (hpub : ab ≠ .none → ap = true) (hm : exits = false ∨ n ≤ 2) :
    Inv (now + staleTimeout) now (variant ab ap (initAbsent n now debug exits)) :=
  .of_at hm (Nat.le_refl _) (Nat.le_refl _) rfl hpub rfl
    (fun _ => ⟨Or.inr rfl, fun hq => Or.inl (base_alive hq now debug exits), ⟨nofun, nofun⟩, trivial⟩) nofun

theorem inv_initHeld (n now ts : Nat) (debug exits : Bool) (ab : Abandon) (ap : Bool)
    (hpub : ab ≠ .none → ap = true) (hm : exits = false ∨ n ≤ 2)
    (hn : 0 < n) (hts : ts ≤ now) :
    Inv (ts + staleTimeout) ts (variant ab ap (initHeld n now debug exits ts)) :=
  .of_at hm (Nat.le_refl _) hts rfl hpub rfl
    (forall_upd
      ⟨Or.inl hn, fun hq => Or.inl (base_alive hq now debug exits), ⟨fun _ => rfl, fun _ => rfl⟩, trivial⟩
      fun q hq => ⟨Or.inr rfl, fun hq => Or.inl (base_alive hq now debug exits),
        ⟨nofun, fun e => absurd (inoOf_inj (Option.some.inj e)).symm hq⟩, trivial⟩)
    fun i hi => by
      cases hi
      exact ⟨Or.inr ⟨0, ts, rfl, hn, Nat.le_refl _, hts⟩, 0, rfl⟩

/-- Mutual exclusion along every schedule from any state that satisfies the invariant, while the clock stays inside
    its window; the theorems below are its instances for the initial states. -/
theorem mutex_of_inv {T t0 : Nat} {s0 : State} (h : Inv T t0 s0) (es : List Ev) (hclk : (run s0 es).now ≤ T) :
    Safe (run s0 es) :=
  safe_of_inv (Inv.run es h hclk)

/-- Mutual exclusion from "no lock file", any number `n` of processes, every schedule `es`
    (induction over the schedule, not enumeration).  Hypotheses (each one has a witness below showing it
    is needed): the acquire that does NOT remove empty lock files (`abandon = .none`, which is how
    `initAbsent` is built: the source before repo commit 9509d2d; with that branch the theorem is false even
    for two processes, `C12_witness_empty_window_race`), terminated processes linger (`exits = false`), and
    the clock stays within 300 s of the start (`hclk`).  Conclusion `Safe`: ≤ 1 holder, ≤ 1 owner, every owner's file
    is still linked at the lock path, no foreign unlink ever happened, and the file is gone whenever nobody owns the
    lock. -/
theorem mutex_absent (n now : Nat) (debug : Bool) (es : List Ev)
    (hclk : (run (initAbsent n now debug false) es).now ≤ now + staleTimeout) :
    Safe (run (initAbsent n now debug false) es) :=
  mutex_of_inv (inv_initAbsent n now debug false .none false (fun h => absurd rfl h) (Or.inl rfl)) es hclk

/-- The same for two processes with processes leaving as soon as they are done: the exit race
    needs three. -/
theorem mutex_absent_two_exits (n now : Nat) (hn : n ≤ 2) (debug : Bool) (es : List Ev)
    (hclk : (run (initAbsent n now debug true) es).now ≤ now + staleTimeout) :
    Safe (run (initAbsent n now debug true) es) :=
  mutex_of_inv (inv_initAbsent n now debug true .none false (fun h => absurd rfl h) (Or.inr hn)) es hclk

/-- Mutual exclusion against a live holder: process 0 is inside its command since `ts ≤ now`, the
    other `n-1` processes start; clock hypothesis: no `now` that occurs exceeds `ts + 300`. -/
theorem mutex_live_holder (n now ts : Nat) (hn : 0 < n) (hts : ts ≤ now) (debug : Bool) (es : List Ev)
    (hclk : (run (initHeld n now debug false ts) es).now ≤ ts + staleTimeout) :
    Safe (run (initHeld n now debug false ts) es) :=
  mutex_of_inv (inv_initHeld n now ts debug false .none false (fun h => absurd rfl h) (Or.inl rfl) hn hts) es hclk

theorem mutex_live_holder_two_exits (n now ts : Nat) (hn : 0 < n) (hn2 : n ≤ 2) (hts : ts ≤ now)
    (debug : Bool) (es : List Ev)
    (hclk : (run (initHeld n now debug true ts) es).now ≤ ts + staleTimeout) :
    Safe (run (initHeld n now debug true ts) es) :=
  mutex_of_inv (inv_initHeld n now ts debug true .none false (fun h => absurd rfl h) (Or.inr hn2) hn hts) es hclk

/-- The proposed repair is safe (seeded/_fixes/c12_publish_lock_by_link.diff): when the lock file is
    published complete (`atomicPublish`: temporary file + `hard_link`), `acquire` may treat ANY unparsable
    lock file — empty or not — as abandoned and remove it (`ab` arbitrary), and mutual exclusion from "no
    lock file" still holds for every number of processes and every schedule.  Without `atomicPublish` the
    same policy is unsafe for two processes (`C12_witness_empty_window_race`). -/
theorem mutex_absent_published (n now : Nat) (debug : Bool) (ab : Abandon) (es : List Ev)
    (hclk : (run (variant ab true (initAbsent n now debug false)) es).now ≤ now + staleTimeout) :
    Safe (run (variant ab true (initAbsent n now debug false)) es) :=
  mutex_of_inv (inv_initAbsent n now debug false ab true (fun _ => rfl) (Or.inl rfl)) es hclk

theorem mutex_absent_published_two_exits (n now : Nat) (hn : n ≤ 2) (debug : Bool) (ab : Abandon) (es : List Ev)
    (hclk : (run (variant ab true (initAbsent n now debug true)) es).now ≤ now + staleTimeout) :
    Safe (run (variant ab true (initAbsent n now debug true)) es) :=
  mutex_of_inv (inv_initAbsent n now debug true ab true (fun _ => rfl) (Or.inr hn)) es hclk

theorem mutex_live_holder_published (n now ts : Nat) (hn : 0 < n) (hts : ts ≤ now) (debug : Bool) (ab : Abandon)
    (es : List Ev)
    (hclk : (run (variant ab true (initHeld n now debug false ts)) es).now ≤ ts + staleTimeout) :
    Safe (run (variant ab true (initHeld n now debug false ts)) es) :=
  mutex_of_inv (inv_initHeld n now ts debug false ab true (fun _ => rfl) (Or.inl rfl) hn hts) es hclk

/-- with the repair a leftover empty or garbage lock file no longer blocks: one process alone cleans it up
    and acquires (7 calls: exists, open, read, decision, unlink, mkdir, link) … -/
example : (runP (withPublishFix (initFile 1 1000 true true .empty)) [0, 0, 0, 0, 0, 0, 0]).pc 0 = .holding ∧
          (runP (withPublishFix (initFile 1 1000 true true .garbage)) [0, 0, 0, 0, 0, 0, 0]).pc 0 = .holding := by decide +kernel

/-- … while several cleaners still race like in the orphaned case (same class as `C12_witness_orphan_race`:
    the check-then-unlink of a leftover file is not atomic; not repaired by that diff) -/
theorem C12_witness_published_cleaner_race :
    let s := runP (withPublishFix (initFile 2 1000 true true .garbage)) [0, 0, 0, 0, 1, 1, 1, 1, 0, 0, 0, 1, 1, 1]
    s.pc 0 = .holding ∧ s.pc 1 = .holding ∧ s.stolen = true := by decide +kernel

/-- plain schedules (no clock events) satisfy the clock hypothesis trivially -/
theorem mutex_absent_plain (n now : Nat) (debug : Bool) (sched : List Nat) :
    Safe (runP (initAbsent n now debug false) sched) :=
  mutex_absent n now debug (sched.map .proc) (by rw [← runP, runP_now]; exact Nat.le_add_right _ _)

/-- Non-vacuity: two processes race from "absent"; one enters, the other is refused with EEXIST,
    and after the winner's drop the file is gone. -/
example : let s := runP (initAbsent 2 1000 true false) [0, 1, 0, 1, 0, 1, 0]
    s.pc 0 = .holding ∧ s.pc 1 = .failed .createExists ∧ cellContent s = some (.pidts (pidOf 0) 1000) := by decide +kernel
example : let s := runP (initAbsent 2 1000 true false) [0, 1, 0, 1, 0, 1, 0, 0, 0, 0]
    s.pc 0 = .done ∧ s.cell = none := by decide +kernel
/-- … and a newcomer that reads a live holder's file gives up with "already running". -/
example : (runP (initHeld 2 1000 true false 990) [1, 1, 1, 1]).pc 1 = .failed (.alreadyRunning (pidOf 0)) := by decide +kernel

/-- Losers do not enter: once acquire has failed (or panicked) the process stays there under every
    schedule — it never reaches the critical section (the only place where the tree is touched). -/
theorem losers_do_not_enter (s : State) (p : Nat) (e : Err) (h : s.pc p = .failed e) (es : List Ev) :
    (run s es).pc p = .failed e :=
  (run_terminal es s p (h ▸ rfl)).trans h

/-- the constructors of `Lock.Err` are the error returns of `acquire`; none of them has put a file at the
    lock path: a process is `failed` only before its `create_new` / `hard_link` succeeded -/
theorem failed_never_owned (e : Err) : (Pc.failed e).owns = false := rfl

/-- Lock released: a holder that runs its work step and `Drop` (three calls) leaves no lock file,
    whatever state it starts from (today's unconditional Drop), or whenever the file is its own (a Drop that
    checks the content, seeded/_fixes/c12_drop_only_own_lock.diff) … -/
theorem lock_released (s : State) (p : Nat) (hp : p < s.n) (hpc : s.pc p = .holding) (hg : s.guarded = false)
    (hd : s.dropChecks = false ∨ s.cell = some (inoOf p)) :
    (runP s [p, p, p]).cell = none ∧ (runP s [p, p, p]).pc p = .done := by
  have e1 : stepEv s (.proc p) = { s with pc := upd s.pc p .dropCheck } := by
    rw [stepEv_proc_unguarded hg]
    simp [step, hp, hpc]
  show (run (stepEv s (.proc p)) [.proc p, .proc p]).cell = none ∧ (run (stepEv s (.proc p)) [.proc p, .proc p]).pc p = .done
  rw [e1]
  cases hc : s.cell with
  | none =>
    -- nothing at the lock path: Drop's test ends the process, and all its third call can do is let it leave
    simp [run, stepEv, step, hp, hg, upd_same] <;> split <;> simp_all [upd_same]
  | some i =>
    -- the test passes (`check_passes`), the unlink empties the path
    simp [run, stepEv, step, hp, hg, upd_same, check_passes hd hc] <;> split <;> simp_all [upd_same]

/-- Ctrl-C while the confirmation prompt waits (`release_held_locks` + `process::exit`): the lock file is
    gone although no destructor runs; and since `promptInt` is a schedule event, the mutex theorems above
    cover it under every interleaving … -/
theorem prompt_interrupt_releases (s : State) (p : Nat) (hp : p < s.n) (hpc : s.pc p = .holding)
    (hg : s.guarded = true → s.guard = none)
    (hd : s.dropChecks = false ∨ s.cell = some (inoOf p)) :
    (promptExit s p).cell = none ∧ (promptExit s p).pc p = .done := by
  unfold promptExit
  rw [if_pos ⟨hp, hpc, hg⟩]
  cases hc : s.cell with
  | none => exact ⟨rfl, upd_same _ _ _⟩
  | some i => simp [check_passes hd hc, upd_same]

/-- … e.g. holder interrupted at the prompt while a newcomer is half-way through acquire -/
example : let s := run (initHeld 2 1000 true true 990) [.proc 1, .proc 1, .promptInt 0, .proc 0, .proc 1, .proc 1]
    s.cell = none ∧ s.pc 0 = .done ∧ s.alive (pidOf 0) = false ∧ s.stolen = false := by decide +kernel

/-- … and under the conditions of the mutex theorems the file is gone in EVERY reachable state in which
    nobody owns the lock (all finished or failed), for every schedule. -/
theorem lock_released_all_schedules (n now : Nat) (debug : Bool) (es : List Ev)
    (hclk : (run (initAbsent n now debug false) es).now ≤ now + staleTimeout)
    (hq : Quiescent (run (initAbsent n now debug false) es)) :
    (run (initAbsent n now debug false) es).cell = none :=
  (mutex_absent n now debug es hclk).2.2.2.2 hq

/-! ## what is false: explicit schedules, checked by kernel evaluation

  Replay on real processes: every number in a schedule is "let this process perform its next
  intercepted call" (`checks/c12.py::real_schedules` drives `renamify test-lock` processes through the
  LD_PRELOAD scheduler; the decision step of the model has no call of its own: it happens when the
  `read` is granted, except `kill(pid,0)` which is a scheduling point of its own). -/

def orphanState (n : Nat) : State := initFile n 1000 true true (.pidts orphanPid 990)
def staleState (n : Nat) : State := initFile n 1000 true true (.pidts orphanPid 699)

/-- both processes read the orphaned lock, both decide to remove it; P0 removes it, creates and writes
    its own; then P1's pending `remove_file` deletes P0's fresh lock and P1 acquires as well. -/
def raceSchedule : List Nat := [0, 0, 0, 0, 1, 1, 1, 1, 0, 0, 0, 0, 1, 1, 1, 1]

theorem C12_witness_orphan_race :
    let s := runP (orphanState 2) raceSchedule
    s.pc 0 = .holding ∧ s.pc 1 = .holding ∧ s.stolen = true ∧ s.cell = some (inoOf 1) ∧
    cellContent s = some (.pidts (pidOf 1) 1000) := by decide +kernel

/-- the same schedule with a stale (301 s old) lock -/
theorem C12_witness_stale_race :
    let s := runP (staleState 2) raceSchedule
    s.pc 0 = .holding ∧ s.pc 1 = .holding ∧ s.stolen = true ∧ s.cell = some (inoOf 1) := by decide +kernel

/-- sequentially both clean-ups are fine: alone, a process removes the old lock and acquires -/
example : (runP (orphanState 1) [0, 0, 0, 0, 0, 0, 0, 0]).pc 0 = .holding ∧
          (runP (staleState 1) [0, 0, 0, 0, 0, 0, 0, 0]).pc 0 = .holding := by decide +kernel

/-- An empty lock file (a crash between `create_new` and `write_all`, shared with C11), any text
    without exactly one ':' or bytes that are not UTF-8 are never removed: every acquire ends in EEXIST
    (or in "Failed to read lock file content") … -/
theorem C12_witness_malformed_blocks :
    (runP (withEmptyBranch (initFile 2 1000 true true .garbage)) [0, 0, 0, 0, 0, 0, 1, 1, 1, 1, 1, 1]).pc 0 = .failed .createExists ∧
    (runP (withEmptyBranch (initFile 2 1000 true true .garbage)) [0, 0, 0, 0, 0, 0, 1, 1, 1, 1, 1, 1]).pc 1 = .failed .createExists ∧
    (runP (initFile 2 1000 true true .empty) [0, 0, 0, 0, 0, 0]).pc 0 = .failed .createExists ∧
    (runP (initFile 2 1000 true true .garbage) [0, 0, 0, 0, 0, 0]).cell = some 0 ∧
    (runP (initFile 2 1000 true true .invalid) [0, 0, 0]).pc 0 = .failed .readInvalid := by decide +kernel

/-- … for ever: no number of processes, no schedule, no amount of waiting lets anybody in. -/
theorem malformed_blocks_forever (n now : Nat) (debug exits : Bool) (ab : Abandon) (ap : Bool) (c : Content)
    (hc : (c = .garbage ∧ ab ≠ .unparsable) ∨ c = .invalid ∨ (c = .empty ∧ ab = .none)) (es : List Ev) (p : Nat) :
    (run (variant ab ap (initFile n now debug exits c)) es).pc p ≠ .holding ∧
    cellContent (run (variant ab ap (initFile n now debug exits c)) es) = some c := by
  have h0 : Stuck c (variant ab ap (initFile n now debug exits c)) := by
    rcases hc with ⟨rfl, h⟩ | rfl | ⟨rfl, h⟩
    · exact ⟨.inr (.inl rfl), ⟨nofun, fun _ => h⟩, nofun, rfl, rfl, rfl, fun _ => rfl⟩
    · exact ⟨.inr (.inr rfl), ⟨nofun, nofun⟩, fun _ => rfl, rfl, rfl, rfl, fun _ => rfl⟩
    · exact ⟨.inl rfl, ⟨fun _ => h, nofun⟩, nofun, rfl, rfl, rfl, fun _ => rfl⟩
  have h := Stuck.run es h0
  constructor
  · intro hp
    have := h.pcs p
    rw [hp] at this; cases this
  · show Option.map _ _ = _
    rw [h.cell]; show some (_ : Content) = _; rw [h.file]

/-- Why repo commit 9509d2d was taken back (an empty lock file is removed as abandoned, `Abandon.empty`).  `acquire` still
    creates the file empty and writes it afterwards, so a LIVE acquirer's file is empty for a moment; a
    second process that reads it in that window removes it.  No leftover lock, two processes, nobody
    slow: P0 exists/mkdir/create — P1 exists/open/read(empty)/decide/unlink/mkdir/create — P0 write (into
    its unlinked inode) — P1 write: both hold.  (Hence `abandon = .none` in `mutex_absent`.) -/
def emptyWindowSchedule : List Nat := [0, 0, 0, 1, 1, 1, 1, 1, 1, 1, 0, 1]

theorem C12_witness_empty_window_race :
    let s := runP (withEmptyBranch (initAbsent 2 1000 true true)) emptyWindowSchedule
    s.pc 0 = .holding ∧ s.pc 1 = .holding ∧ s.stolen = true ∧ s.cell = some (inoOf 1) := by decide +kernel

/-- the same schedule without the branch: P1 is refused with EEXIST -/
example : (runP (initAbsent 2 1000 true true) [0, 0, 0, 1, 1, 1, 1, 1, 1]).pc 1 = .failed .createExists := by decide +kernel

/-- with the branch, a leftover empty file is cleaned up (what the commit wanted) … -/
example : (runP (withEmptyBranch (initFile 1 1000 true true .empty)) [0, 0, 0, 0, 0, 0, 0, 0]).pc 0 = .holding := by decide +kernel

/-- … but two cleaners race exactly like in the orphaned case -/
theorem C12_witness_empty_cleaner_race :
    let s := runP (withEmptyBranch (initFile 2 1000 true true .empty)) raceSchedule
    s.pc 0 = .holding ∧ s.pc 1 = .holding ∧ s.stolen = true := by decide +kernel

/-- A live holder that has been working for more than 300 s (here 301) is evicted by a newcomer:
    P1 reads P0's lock, finds it stale, removes it and acquires — two holders. -/
theorem C12_witness_stale_live_evicted :
    let s := runP (initHeld 2 1000 true true 699) [1, 1, 1, 1, 1, 1, 1, 1]
    s.pc 0 = .holding ∧ s.pc 1 = .holding ∧ s.stolen = true ∧ s.alive (pidOf 0) = true := by decide +kernel

/-- … and when the evicted P0 finishes, its `Drop` removes P1's lock without looking at the content
    (`release()` would have checked it, but no command calls it); P1 keeps working without a lock
    file and a third process P2 walks in. -/
theorem C12_witness_drop_removes_foreign :
    let s := runP (initHeld 3 1000 true true 699) [1, 1, 1, 1, 1, 1, 1, 1, 0, 0, 0]
    s.pc 0 = .done ∧ s.pc 1 = .holding ∧ s.cell = none ∧
    (runP s [2, 2, 2, 2]).pc 2 = .holding ∧ (runP s [2, 2, 2, 2]).pc 1 = .holding := by decide +kernel

/-- the prompt-exit path is as blind as `Drop`: an evicted holder interrupted at its prompt unlinks the
    new holder's lock -/
theorem C12_witness_prompt_exit_removes_foreign :
    let s := run (initHeld 2 1000 true true 699) ((List.replicate 8 (Ev.proc 1)) ++ [.promptInt 0])
    s.pc 0 = .done ∧ s.pc 1 = .holding ∧ s.cell = none ∧ s.stolen = true := by decide +kernel

/-- with a Drop that removes the file only if it is still its own (c12_drop_only_own_lock.diff) the evicted
    holder's exit leaves the new holder's lock alone -/
example :
    let s := runP (withDropChecks (initHeld 3 1000 true true 699)) [1, 1, 1, 1, 1, 1, 1, 1, 0, 0, 0]
    s.pc 0 = .done ∧ s.pc 1 = .holding ∧ s.cell = some (inoOf 1) ∧
    (runP s [2, 2, 2, 2]).pc 2 = .failed (.alreadyRunning (pidOf 1)) := by decide +kernel

/-- A lock whose timestamp lies in the future (clock stepped back, or written by hand): the debug
    build panics on `current_time - timestamp` … -/
theorem C12_witness_future_ts_panics :
    (runP (initFile 1 1000 true true (.pidts orphanPid 1100)) [0, 0, 0, 0]).pc 0 = .panicked := by decide +kernel

/-- with `saturating_sub` (c12_future_timestamp_saturating.diff) the age is 0 in either build: an orphaned
    lock is cleaned up through the liveness check, a live holder keeps its lock -/
example : (runP (withSaturating (initFile 1 1000 true true (.pidts orphanPid 1100)))
    [0, 0, 0, 0, 0, 0, 0, 0]).pc 0 = .holding := by decide +kernel
set_option maxRecDepth 8000 in
example : (runP (withSaturating (initHeld 2 1000 false true 1100)) [1, 1, 1, 1]).pc 1
    = .failed (.alreadyRunning (pidOf 0)) := by decide +kernel

/-- … and the release build wraps to a huge age, so even a LIVE holder's lock counts as stale. -/
theorem C12_witness_future_ts_release_evicts :
    let s := runP (initHeld 2 1000 false true 1100) [1, 1, 1, 1, 1, 1, 1, 1]
    s.pc 0 = .holding ∧ s.pc 1 = .holding ∧ s.stolen = true := by decide +kernel

/-- Three processes, no leftover lock, nobody slow: P0 holds; P1 reads P0's lock; P0 finishes,
    drops and exits; P2 acquires; only now P1 evaluates `is_process_running(P0)` = false, removes the
    "orphaned" lock — which is P2's — and acquires.  (This is why `mutex_absent` needs
    `exits = false` for n ≥ 3.) -/
def exitRaceSchedule : List Nat := [0, 0, 0, 0, 1, 1, 1, 0, 0, 0, 0, 2, 2, 2, 2, 1, 1, 1, 1, 1]

theorem C12_witness_exit_race :
    let s := runP (initAbsent 3 1000 true true) exitRaceSchedule
    s.pc 0 = .done ∧ s.alive (pidOf 0) = false ∧ s.pc 1 = .holding ∧ s.pc 2 = .holding ∧ s.stolen = true := by decide +kernel

/-- with two processes the same prefix only produces a spurious failure, not a second holder -/
example : (runP (initAbsent 2 1000 true true) [0, 0, 0, 0, 1, 1, 1, 0, 0, 0, 0, 1, 1]).pc 1
    = .failed (.removeFailed .orphaned) := by decide +kernel

/-- The full-strength statement is false: the orphan race (`C12_witness_orphan_race`) in the variant `.none`/`false`. -/
theorem C12_full_false : ¬ C12_full := by
  intro h
  have := (h (.orphaned 10) (by show 10 ≤ 300; decide) 2 1000 (by decide) true .none false (raceSchedule.map .proc)).1.1 0 1
  exact absurd (this (by decide +kernel) (by decide +kernel)) (by decide)

/-- … and so is "a leftover lock file never blocks" (the malformed file does, for ever). -/
theorem C12_never_blocked_false : ¬ C12_never_blocked := by
  intro h
  obtain ⟨es, hes⟩ := h (.malformed .garbage) (Or.inr (Or.inl rfl)) (by intro age h; cases h) 1000 (by decide) true false
  exact (malformed_blocks_forever 1 1000 true true .none false .garbage (Or.inl ⟨rfl, by decide⟩) es 0).1 hes

/-! ## the guarded shape (seeded/_fixes/c12_1_guard_lock_file_sequences.diff + c12_2_live_holder_never_stale.diff)

  `acquire` (read the lock file, judge it, remove it, publish ours) and the release paths (`Drop`,
  `release_held_locks`: check the content, remove) run under an exclusive `flock` on `.renamify`
  (`Lock.gstep`; the flock is a kernel mutex, `State.guard`), and a lock is removed as stale or orphaned only if
  its pid is dead.  For that shape mutual exclusion needs NO hypothesis: not on the lock file that is there at
  the start, not on the clock, not on the number of processes, not on processes leaving. -/

/-- as `Safe`, except that when nobody owns the lock the path is empty or still holds the file that was there
    initially -/
def SafeG (s : State) : Prop :=
  AtMostOneHolder s ∧ AtMostOneOwner s ∧ OwnersLinked s ∧ s.stolen = false ∧
  (Quiescent s → s.cell = none ∨ s.cell = some 0)

theorem safeG_of_ginv {s : State} (h : GInv s) : SafeG s := by
  refine ⟨holder_of_owner h.owners_unique, h.owners_unique, fun p hp => (h.owners p hp).1, h.notStolen,
    fun hq => ?_⟩
  cases hc : s.cell with
  | none => exact Or.inl rfl
  | some i =>
    by_cases hi : i = 0
    · subst hi; exact Or.inr rfl
    · obtain ⟨o, _, hoo⟩ := h.linked i hc hi
      rw [hq o] at hoo; cases hoo

/-- the guarded shape, with arbitrary values of the other shape flags -/
def guardedShape (ab : Abandon) (ap sat dc lr : Bool) (s : State) : State :=
  { s with abandon := ab, atomicPublish := ap, saturating := sat, dropChecks := dc, staleNeedsDead := true,
           lossyRead := lr, guarded := true }

theorem ginv_initAbsent (n now : Nat) (d e : Bool) (ab : Abandon) (ap sat dc lr : Bool) :
    GInv (guardedShape ab ap sat dc lr (initAbsent n now d e)) :=
  .of_at rfl rfl rfl (fun _ => ⟨Or.inr rfl, fun hq _ => base_alive hq now d e, nofun, nofun, trivial⟩) nofun nofun

/-- ANY lock file may be there at the start: orphaned, stale, empty, damaged, naming a live foreign process … -/
theorem ginv_initFile (n now : Nat) (d e : Bool) (c : Content) (ab : Abandon) (ap sat dc lr : Bool) :
    GInv (guardedShape ab ap sat dc lr (initFile n now d e c)) :=
  .of_at rfl rfl rfl (fun _ => ⟨Or.inr rfl, fun hq _ => base_alive hq now d e, nofun, nofun, trivial⟩) nofun
    fun _ hi hi0 => absurd (Option.some.inj hi).symm hi0

theorem ginv_initHeld (n now ts : Nat) (d e : Bool) (hn : 0 < n) (ab : Abandon) (ap sat dc lr : Bool) :
    GInv (guardedShape ab ap sat dc lr (initHeld n now d e ts)) :=
  .of_at rfl rfl rfl
    (forall_upd ⟨Or.inl hn, fun hq _ => base_alive hq now d e, nofun, fun _ => ⟨rfl, ts, rfl⟩, trivial⟩
      fun _ _ => ⟨Or.inr rfl, fun hq _ => base_alive hq now d e, nofun, nofun, trivial⟩)
    nofun fun _ hi _ => ⟨0, (Option.some.inj hi).symm, rfl⟩

/-- Mutual exclusion under the guard, from every initial lock-file state, any number of processes, every
    schedule (calls, clock ticks of any size, Ctrl-C at prompts, processes leaving). -/
theorem mutex_guarded {s0 : State} (h : GInv s0) (es : List Ev) : SafeG (run s0 es) :=
  safeG_of_ginv (GInv.run es h)

theorem mutex_guarded_absent (n now : Nat) (d e : Bool) (ab : Abandon) (ap sat dc lr : Bool) (es : List Ev) :
    SafeG (run (guardedShape ab ap sat dc lr (initAbsent n now d e)) es) :=
  mutex_guarded (ginv_initAbsent n now d e ab ap sat dc lr) es

theorem mutex_guarded_any_lock_file (n now : Nat) (d e : Bool) (c : Content) (ab : Abandon) (ap sat dc lr : Bool)
    (es : List Ev) : SafeG (run (guardedShape ab ap sat dc lr (initFile n now d e c)) es) :=
  mutex_guarded (ginv_initFile n now d e c ab ap sat dc lr) es

theorem mutex_guarded_live_holder (n now ts : Nat) (d e : Bool) (hn : 0 < n) (ab : Abandon) (ap sat dc lr : Bool)
    (es : List Ev) : SafeG (run (guardedShape ab ap sat dc lr (initHeld n now d e ts)) es) :=
  mutex_guarded (ginv_initHeld n now ts d e hn ab ap sat dc lr) es

/-- `withGuard` (all repairs) is one of these shapes -/
example (s : State) : withGuard s = guardedShape .unparsable true true true true s := rfl

/-- the schedules that break the unguarded shape, replayed on the guarded one (a call on a held guard does not
    return: the blocked process's turns are no-ops): orphan race, stale race, unparsable cleaner race,
    three-process exit race, live holder older than 300 s -/
example : let s := runP (withGuard (orphanState 2)) (raceSchedule ++ [1, 1])
    s.pc 0 = .holding ∧ s.pc 1 = .failed (.alreadyRunning (pidOf 0)) ∧ s.stolen = false := by decide +kernel
example : let s := runP (withGuard (staleState 2)) (raceSchedule ++ [1, 1])
    s.pc 0 = .holding ∧ s.pc 1 = .failed (.alreadyRunning (pidOf 0)) ∧ s.stolen = false := by decide +kernel
example : let s := runP (withGuard (initFile 2 1000 true true .garbage)) (raceSchedule ++ [1, 1])
    s.pc 0 = .holding ∧ s.pc 1 = .failed (.alreadyRunning (pidOf 0)) ∧ s.stolen = false := by decide +kernel
example : let s := runP (withGuard (initAbsent 3 1000 true true)) exitRaceSchedule
    s.pc 1 = .failed (.alreadyRunning (pidOf 0)) ∧ s.pc 2 = .start ∧ s.stolen = false := by decide +kernel
example : let s := runP (withGuard (initHeld 2 1000 true true 699)) [1, 1, 1, 1, 1, 1, 1, 1]
    s.pc 0 = .holding ∧ s.pc 1 = .failed (.alreadyRunning (pidOf 0)) ∧ s.stolen = false := by decide +kernel
/-- a non-UTF-8 lock file is unparsable, hence abandoned: one process cleans it up and acquires -/
example : (runP (withGuard (initFile 1 1000 true true .invalid)) [0, 0, 0, 0, 0, 0, 0, 0]).pc 0 = .holding := by decide +kernel

/-- the guard alone is not enough for a holder older than 300 s: with "stale needs dead" off it is still evicted
    (the hypothesis `staleNeedsDead` of `GInv`; repaired by c12_2_live_holder_never_stale.diff) -/
theorem C12_witness_guard_without_liveness :
    let s := runP { withGuard (initHeld 2 1000 true true 699) with staleNeedsDead := false } [1, 1, 1, 1, 1, 1, 1, 1]
    s.pc 0 = .holding ∧ s.pc 1 = .holding ∧ s.stolen = true := by decide +kernel


/-! ## the source fingerprint and the table of lock users (generated from /repo on every run) -/

open Gen.LockUsers

theorem acquire_shape_matches :
    acquireShape = Lock.expectedAcquireShape abandonPolicy publishByLink guardedSequences := by decide
theorem drop_shape_matches : dropShape = Lock.expectedDropShape dropChecksContent := by decide
theorem release_held_shape_matches : releaseHeldShape = Lock.expectedReleaseHeldShape := by decide
theorem stale_timeout_matches : staleTimeoutSecs = Lock.staleTimeout := by decide
/-- `parts.len() == 2`, `parse::<u32>().unwrap_or(0)`, `parse::<u64>().unwrap_or(0)` -/
theorem parse_shape_matches :
    partsTestIsEq = true ∧ partsLen = 2 ∧ parseDefaults = [(32, 0), (64, 0)] := by decide
/-- `if age > 300 {remove} else if running {fail} else {remove}`, or — a live holder is never stale —
    `if pid != 0 && running {fail} else if age > 300 {remove} else {remove}`, as modelled by `Lock.decide'` -/
theorem decision_chain_matches :
    decisionChain = (if liveNeverStale then [(.running, .fail), (.staleGt, .remove), (.otherwise, .remove)]
                     else [(.staleGt, .remove), (.running, .fail), (.otherwise, .remove)]) := by decide
/-- the model's states are built with the flags of the source: `Driver/OpsLock.lean` reads them from here -/
theorem source_flags_are_booleans : (ageSaturates = true ∨ ageSaturates = false) ∧
    (dropChecksContent = true ∨ dropChecksContent = false) := by decide
/-- Ctrl-C at the confirmation prompt: the handler calls `release_held_locks()` before `process::exit`, the
    path was registered after the write and is de-registered by `Drop` (modelled by `Lock.promptExit`) -/
theorem prompt_exit_releases_in_source : promptExitReleases = true := by decide

/-- the lock path comes into being exclusively: `create_new(true)` (O_EXCL) or `hard_link` (EEXIST if the
    path exists), never `create(true)`/truncate -/
theorem create_is_exclusive :
    (FsCall.optCreateNew ∈ acquireShape ∨ FsCall.hardLink ∈ acquireShape) ∧
    FsCall.optCreate ∉ acquireShape ∧ FsCall.optTruncate ∉ acquireShape := by
  decide

/-- the commands that change the tree or renamify's own state -/
def mutating : List Command := [.plan, .rename, .apply, .undo, .redo, .replace]

/-- every mutating command takes the lock (false on the pinned tree: `C12_all_mutators_lock_false_old`) -/
def C12_all_mutators_lock : Prop := ∀ c ∈ mutating, locks c = true

/-- Every mutating command takes the lock (since repo commit 451dd24); removing the acquire from any
    of them flips this theorem, and the CLI oracle of `checks/c12.py` reports the command entering under a
    held lock. -/
theorem all_mutators_lock : C12_all_mutators_lock := by unfold C12_all_mutators_lock; decide

/-- exactly these commands reach `LockFile::acquire`; `search`, `rename`, `replace` and `plan` skip it exactly
    when `dry_run` (a dry run writes nothing; `search` = `plan` with `dry_run = true`); the table covers every
    CLI command -/
theorem lockers_exactly :
    (table.filter (·.locks)).map (·.cmd) = [.search, .rename, .replace, .plan, .apply, .undo, .redo, .testLock] ∧
    (table.filter (·.unlessDryRun)).map (·.cmd) = [.search, .rename, .replace, .plan] ∧
    table.map (·.cmd) = Command.all := by decide

/-- wherever the lock is taken it is bound to a variable that lives until the operation returns, and
    nothing mutating precedes it; `apply`, `undo`, `redo` and `test-lock` take it unconditionally -/
theorem lockers_hold_until_return :
    (∀ r ∈ table, r.locks = true → r.held = true ∧ r.first = true) ∧
    (∀ r ∈ table, r.cmd = .testLock ∨ r.cmd = .apply ∨ r.cmd = .undo ∨ r.cmd = .redo → r.unlessDryRun = false) := by
  decide

theorem plan_locks : locks .plan = true := by decide
theorem rename_locks : locks .rename = true := by decide
theorem apply_locks : locks .apply = true := by decide
theorem undo_locks : locks .undo = true := by decide
theorem redo_locks : locks .redo = true := by decide
theorem replace_locks : locks .replace = true := by decide
theorem test_lock_locks : locks .testLock = true := by decide

/-- the side condition of the invariant (`Lock.Inv.publish`) holds for the source: unparsable lock files are
    removed only because the lock file is published complete.  (Also true for the pinned tree, which removes
    none; false for the 9509d2d variant, `C12_witness_empty_window_race`.) -/
theorem source_publish_condition : abandonPolicy ≠ .none → publishByLink = true := by decide

/-- Mutual exclusion for the acquire that the source has (flags regenerated from /repo on every run):
    from "no lock file", any number of processes, every schedule, clock within 300 s, terminated processes
    lingering … -/
theorem mutex_absent_source (n now : Nat) (debug : Bool) (es : List Ev)
    (hclk : (run (variant abandonPolicy publishByLink (initAbsent n now debug false)) es).now ≤ now + staleTimeout) :
    Safe (run (variant abandonPolicy publishByLink (initAbsent n now debug false)) es) :=
  mutex_of_inv (inv_initAbsent n now debug false abandonPolicy publishByLink source_publish_condition
    (Or.inl rfl)) es hclk

/-- … for two processes also when they exit at once … -/
theorem mutex_absent_source_two_exits (n now : Nat) (hn : n ≤ 2) (debug : Bool) (es : List Ev)
    (hclk : (run (variant abandonPolicy publishByLink (initAbsent n now debug true)) es).now ≤ now + staleTimeout) :
    Safe (run (variant abandonPolicy publishByLink (initAbsent n now debug true)) es) :=
  mutex_of_inv (inv_initAbsent n now debug true abandonPolicy publishByLink source_publish_condition
    (Or.inr hn)) es hclk

/-- … and against a live holder. -/
theorem mutex_live_holder_source (n now ts : Nat) (hn : 0 < n) (hts : ts ≤ now) (debug : Bool) (es : List Ev)
    (hclk : (run (variant abandonPolicy publishByLink (initHeld n now debug false ts)) es).now ≤ ts + staleTimeout) :
    Safe (run (variant abandonPolicy publishByLink (initHeld n now debug false ts)) es) :=
  mutex_of_inv (inv_initHeld n now ts debug false abandonPolicy publishByLink source_publish_condition
    (Or.inl rfl) hn hts) es hclk

/-- The model's `alive` predicate is what the source computes: `is_process_running(pid)` is `kill(pid, 0) == 0`
    and nothing else, i.e. a pid counts as alive exactly as long as the process exists (`State.alive`: true from
    start until the process has left).  Every mutex theorem relies on "a live holder is reported alive"
    (`GInv.liveness`/`Inv.liveness` + `decide'`); a further condition in the probe (what the process executes,
    who owns it, …) can report a live holder dead and breaks them — it flips this theorem. -/
theorem liveness_is_kill_zero : livenessIsKillZero = true := by decide

/-- the shapes of `lock.rs` for which mutual exclusion is proved: unguarded (theorems `mutex_*_source` above, with
    their clock / exit hypotheses), or guarded with "a live holder is never stale" and publish by link
    (`mutex_source_guarded` below, no hypotheses).  A guard without the liveness repair is not covered. -/
theorem source_shape :
    guardedSequences = false ∨ (guardedSequences = true ∧ liveNeverStale = true ∧ publishByLink = true) := by decide

/-- the model state with every shape flag taken from the source -/
def srcShape (s : State) : State :=
  { s with abandon := abandonPolicy, atomicPublish := publishByLink, saturating := ageSaturates,
           dropChecks := dropChecksContent, staleNeedsDead := liveNeverStale, lossyRead := readsLossily,
           guarded := guardedSequences }

/-- If the source is guarded, mutual exclusion holds for it from every initial lock-file state, for any number
    of processes and every schedule (vacuous while the source is unguarded) -/
theorem mutex_source_guarded (hg : guardedSequences = true) (n now : Nat) (d e : Bool) (c : Option Content)
    (es : List Ev) :
    SafeG (run (srcShape (match c with | none => initAbsent n now d e | some c => initFile n now d e c)) es) := by
  have hl : liveNeverStale = true := (source_shape.resolve_left (by rw [hg]; nofun)).2.1
  have e1 : ∀ s, srcShape s = guardedShape abandonPolicy publishByLink ageSaturates dropChecksContent readsLossily s := by
    intro s; unfold srcShape guardedShape; rw [hg, hl]
  rw [e1]
  cases c with
  | none => exact mutex_guarded_absent n now d e _ _ _ _ _ es
  | some c => exact mutex_guarded_any_lock_file n now d e c _ _ _ _ _ es

/-- an unparsable (empty or damaged) lock file is abandoned, and the lock file is published by `hard_link`
    (repo commit 35d666f): a leftover file no longer blocks the next command (`malformed_blocks` is repaired
    for text; see the `withPublishFix` examples above) -/
theorem unparsable_abandoned_under_atomic_publish : abandonPolicy = .unparsable ∧ publishByLink = true := by decide

/-- `Drop` and `release_held_locks` remove the file only if its content is still ours (repo commit d33e63d):
    the model's `dropChecks`, under which an evicted holder leaves the new holder's lock alone -/
theorem drop_is_content_checked : dropChecksContent = true := by decide

/-- the age of a lock saturates at 0 (repo commit 469c078): no panic, no wrap for a future timestamp -/
theorem age_saturates : ageSaturates = true := by decide

/-- no command calls `release()`: what runs at the end of a command is `Drop` (modelled at `dropCheck`/`dropUnlink`) -/
theorem release_never_called : releaseCallSites = 0 := by decide

end C12
