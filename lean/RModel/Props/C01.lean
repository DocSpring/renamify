import RModel.Base.Lit
import RModel.Model.Fs
import RModel.Model.Apply
import RModel.Model.Patch
import RModel.Model.Undo
import RModel.Lemmas.RenamePhase
import RModel.Lemmas.PatchText
import RModel.Lemmas.Undo
import RModel.Lemmas.UndoB
import RModel.Lemmas.PathOrder
import RModel.Props.C02ren
/-
  C01 — Undo restores the exact pre-apply tree.   (lemmas in `Lemmas/Undo.lean`, `UndoB.lean`, `PatchText.lean`,
  `PatchParse.lean`, `PathOrder.lean`)
-/
namespace C01
open Fs Apply Patch Undo PatchText

/-- HEADER REWRITING TOUCHES ONLY THE HEADER.  For every text `l1 ++ l2 ++ body` whose first two lines are a
    `--- ` and a `+++ ` line and whose rest starts with `@@`, `replace_patch_headers` yields the two new header
    lines (each with the line ending of the line it replaces) followed by `body` byte for byte — whatever `body`
    contains: `--- x`, `+++ y`, `@@`, CRLF, a missing final newline. -/
theorem rewriteHeaders_only_headers (l1 l2 body a b : Bytes) (h1 : IsLine l1) (h2 : IsLine l2)
    (p1 : sw l1 b!"--- " = true) (p2 : sw l2 b!"+++ " = true) (p3 : sw body b!"@@" = true) :
    rewriteHeaders (l1 ++ l2 ++ body) a b
      = b!"--- " ++ quoteName a ++ eol l1 ++ (b!"+++ " ++ quoteName b ++ eol l2 ++ body) :=
  rewriteGo_shape l1 l2 body (quoteName a) (quoteName b) h1 h2 p1 p2 p3

/-- non-vacuity, and the shapes that used to break: body lines `--- x`, `+++ y`, `@@`, CRLF header, no final newline -/
example :
    rewriteHeaders (b!"--- original\r\n" ++ b!"+++ modified\n" ++ b!"@@ -1,3 +1,3 @@\n--- foo x\n+-- bar x\n+++ y\r\n@@\n\\ No newline at end of file")
        b!"new/p.txt" b!"old/p.txt"
      = b!"--- new/p.txt\r\n+++ old/p.txt\n@@ -1,3 +1,3 @@\n--- foo x\n+-- bar x\n+++ y\r\n@@\n\\ No newline at end of file" := by
  decide +kernel

/-- THE OLD DEFECT (before "fix: rewrite only the header lines of reverse patches"): every `--- ` / `+++ ` line was
    rewritten, so the deleted line `-- baz_qux x` (printed `--- baz_qux x`) became a file-name header. -/
theorem rewriteHeadersOld_witness_dashdash :
    rewriteHeadersOld b!"--- original\n+++ modified\n@@ -1 +1 @@\n--- baz_qux x\n+-- foo_bar x\n" b!"n.txt" b!"n.txt"
      = b!"--- n.txt\n+++ n.txt\n@@ -1 +1 @@\n--- n.txt\n+-- foo_bar x\n" ∧
    rewriteHeaders b!"--- original\n+++ modified\n@@ -1 +1 @@\n--- baz_qux x\n+-- foo_bar x\n" b!"n.txt" b!"n.txt"
      = b!"--- n.txt\n+++ n.txt\n@@ -1 +1 @@\n--- baz_qux x\n+-- foo_bar x\n" := by decide +kernel


/-- What is assumed about `diffy` (hypotheses, not axioms).  `roundtrip` is the stated contract; `emptyId` and
    `nameBlind` say that `apply` ignores the header and does nothing without hunks (`diffy/src/apply.rs`); `names` and
    `selfParse` say that `create_patch` uses the generic header and that diffy parses its own output back
    (`Patch::from_str(p.to_string()) == p`).  Nothing about renamify's rewriting is assumed: that part is
    `parse_rewrite_fmt`.  All five are exercised on every generated pair by the check (`diffrt`, `patchrt`, `papply`). -/
abbrev Contract := UndoLemmas.Contract

/-- QUOTED HEADER NAMES READ BACK.  For EVERY path string — quotes, backslashes, TAB, CR, LF, NUL included — diffy's
    `parse_filename` returns exactly the name that `replace_patch_headers` wrote (quoted when diffy requires it).
    (Commit "quote file names in reverse patch headers when diffy requires it".) -/
theorem parseFilename_quoted (n : Bytes) :
    parseFilename b!"--- " (b!"--- " ++ quoteName n ++ [10]) = .ok n ∧
    parseFilename b!"+++ " (b!"+++ " ++ quoteName n ++ [10]) = .ok n :=
  ⟨PatchParse.parseFilename_quoted _ n, PatchParse.parseFilename_quoted _ n⟩

/-- `parse_rewrite_fmt`.  For every patch `p` with diffy's generic header and at least one hunk that diffy parses back
    from its own text, and for EVERY pair of paths: parsing the text with renamify's header lines gives `p` with the
    two paths as names.  (The hypothesis `parse (fmt p) = ok p` is about diffy alone; it is `Contract.selfParse` for
    the patches `create_patch` produces and is compared with the real parser on every run.) -/
theorem parse_rewrite_fmt (p : Patch.Patch) (a b : Bytes) (ho : p.old = some b!"original")
    (hn : p.new = some b!"modified") (hh : p.hunks ≠ []) (hp : Patch.parse (fmt p) = .ok p) :
    Patch.parse (rewriteHeaders (fmt p) a b) = .ok { p with old := some a, new := some b } :=
  PatchParse.parse_rewrite p a b ho hn (by decide) (by decide) hh hp

/-- non-vacuity of `parse_rewrite_fmt` and independent kernel evaluation: CRLF lines, `--- `/`+++ ` body lines, blank
    context, both sides without final newline; paths with a space, non-ASCII bytes, a double quote, a backslash,
    TAB, CR and LF -/
theorem parse_rewrite_fmt_instances :
    (let p := diffAll b!"x baz_qux\r\n-- baz_qux\n\nlast" b!"x foo_bar\r\n-- foo_bar\n\nlast baz"
     Patch.parse (fmt p) = .ok p ∧
     Patch.parse (rewriteHeaders (fmt p) b!"my dir/n\xc3\xa9w.txt" b!"my dir/old.txt")
       = .ok { p with old := some b!"my dir/n\xc3\xa9w.txt", new := some b!"my dir/old.txt" } ∧
     Patch.parse (rewriteHeaders (fmt p) b!"q\"baz_qux\".txt" b!"a\\b/t\tab\rcr\nlf")
       = .ok { p with old := some b!"q\"baz_qux\".txt", new := some b!"a\\b/t\tab\rcr\nlf" }) ∧
    (let p : Patch.Patch := Patch.Patch.mk (some b!"original") (some b!"modified")
        [Patch.Hunk.mk ⟨1, 3⟩ ⟨1, 3⟩ none [⟨.context, b!"a\n"⟩, ⟨.delete, b!"-- x\n"⟩, ⟨.insert, b!"++ y\n"⟩, ⟨.context, b!"\n"⟩],
         Patch.Hunk.mk ⟨10, 1⟩ ⟨10, 1⟩ none [⟨.delete, b!"end"⟩, ⟨.insert, b!"END"⟩]]
     Patch.parse (fmt p) = .ok p ∧
     Patch.parse (rewriteHeaders (fmt p) b!"a/b" b!"c/d") = .ok { p with old := some b!"a/b", new := some b!"c/d" }) ∧
    rewriteHeaders b!"--- original\n+++ modified\n@@ -1 +1 @@\n-a\n+b\n" b!"q\"x\".txt" b!"t\tab"
      = b!"--- \"q\\\"x\\\".txt\"\n+++ \"t\\tab\"\n@@ -1 +1 @@\n-a\n+b\n" := by
  decide +kernel

/-- THE OLD DEFECT (before "fix: quote file names in reverse patch headers when diffy requires it"): with the path
    written as it is, a double quote or a backslash made renamify's own patch unparsable — "invalid char in unquoted
    filename" — although the same patch with diffy's generic header parses (a TAB only truncated the name). -/
theorem rewriteHeadersUnquoted_witness :
    let p := diffAll b!"say baz_qux\n" b!"say foo_bar\n"
    Patch.parse (fmt p) = .ok p ∧
    Patch.parse (rewriteHeadersUnquoted (fmt p) b!"q\"baz_qux\".txt" b!"q\"foo_bar\".txt") = .error .invalidUnquoted ∧
    Patch.parse (rewriteHeadersUnquoted (fmt p) b!"a\\b/n.txt" b!"a\\b/n.txt") = .error .invalidUnquoted ∧
    (Patch.parse (rewriteHeadersUnquoted (fmt p) b!"tab\tbaz.txt" b!"tab\tfoo.txt")).isOk = true ∧
    (Patch.parse (rewriteHeaders (fmt p) b!"q\"baz_qux\".txt" b!"q\"foo_bar\".txt")).isOk = true := by decide +kernel

open UndoLemmas in
/-- CONTENT RESTORATION.  Under the contract, STEP 2 of undo gives an edited file its original bytes back and keeps
    its mode; no other node is touched — whatever the two paths are. -/
theorem undo_content (cfg : Cfg) (hc : Contract cfg) (T : Tree) (f cur : Path) (c1 c0 : Bytes) (m : Nat)
    (hl : lookup T f = some (.file c1 m)) (hv : Utf8.valid c1 = true) (hne : c1 ≠ c0) :
    applyOne cfg T { orig := f, cur := cur,
                     text := rewriteHeaders (fmt (cfg.diff c1 c0)) (joinPath cur) (joinPath f) }
      = (setContent T f c0, false) ∧
    lookup (setContent T f c0) f = some (.file c0 m) ∧
    ∀ k, k ≠ f → lookup (setContent T f c0) k = lookup T k := by
  have hh : (cfg.diff c1 c0).hunks ≠ [] := fun h => hne (hc.eq_of_noHunks h)
  refine ⟨applyOne_good hc cur hl hv hh, ?_, fun k hk => ?_⟩
  · rw [RenamePhase.lookup_setContent, if_pos rfl, hl]; rfl
  · rw [RenamePhase.lookup_setContent, if_neg hk]

/-- repaired: a file whose name contains a double quote is restored by the driver's instance of the model … -/
theorem undo_content_quoted_name :
    let t : Tree := [([b!"q\"x\".txt"], .file b!"say baz_qux\n" 436)]
    let pr : PatchRec := PatchRec.mk [b!"q\"x\".txt"] [b!"q\"x\".txt"]
      (rewriteHeaders (fmt (diffAll b!"say baz_qux\n" b!"say foo_bar\n")) b!"q\"x\".txt" b!"q\"x\".txt")
    applyOne driverCfg t pr = ([([b!"q\"x\".txt"], .file b!"say foo_bar\n" 436)], false) := by decide +kernel

/-- … whereas a patch that does not parse (the old unquoted header) leaves the new content and drops a `.rej` file -/
theorem undo_content_witness_rej :
    let t : Tree := [([b!"q\"x\".txt"], .file b!"say baz_qux\n" 420)]
    let pr : PatchRec := PatchRec.mk [b!"q\"x\".txt"] [b!"q\"x\".txt"]
      (rewriteHeadersUnquoted (fmt (diffAll b!"say baz_qux\n" b!"say foo_bar\n")) b!"q\"x\".txt" b!"q\"x\".txt")
    (applyOne driverCfg t pr).2 = true ∧
    lookup (applyOne driverCfg t pr).1 [b!"q\"x\".txt"] = some (.file b!"say baz_qux\n" 420) ∧
    (lookup (applyOne driverCfg t pr).1 [b!"q\"x\".txt.rej"]).isSome = true := by decide +kernel

open UndoLemmas RenamePhase in
/-- UNDO STEP 1 INVERTS THE RENAME PHASE.  For every tree and rename set within the guards of the rename-phase
    theorem (`C02ren.renamePhase_ok`: the tree after apply is `moveAll rs t`), the undo sequence — directories back
    shallowest first, then files, each guarded by `symlink_metadata` — returns every node to its original path:
    directories renamed inside renamed directories at any depth and renamed symlinks (dangling or not) included. -/
theorem undo_paths (t : Tree) (rs : List Ren) (h1 : C02ren.LastOnly rs) (h2 : C02ren.DistinctSources rs)
    (h3 : C02ren.TreeWF t) (h4 : C02ren.KindsOk t rs) (h5 : C02ren.DestFree t rs) :
    undoRenames rs (C02ren.moveAll rs t) = (t, none) := by
  rw [C02ren.moveAll_eq]
  exact undo_paths_core ⟨h1.toLemma, h2, h3.toLemma, h4.toLemma, h5⟩

/-- a directory tree renamed on three levels, with a file that is edited only, renamed only, both -/
def nestedTree : Tree :=
  [([b!"foo_bar"], .dir 493),
   ([b!"foo_bar", b!"foo_bar"], .dir 493),
   ([b!"foo_bar", b!"foo_bar", b!"foo_bar"], .dir 448),
   ([b!"foo_bar", b!"foo_bar", b!"foo_bar", b!"foo_bar.txt"], .file b!"x foo_bar\r\n" 384),
   ([b!"foo_bar", b!"foo_bar", b!"other.txt"], .file b!"fooBar" 420),
   ([b!"foo_bar", b!"foo_bar_only.md"], .file [] 493),
   ([b!"README"], .file b!"r" 420)]

/-- in the planner's order (directories deepest first) -/
def nestedRens : List Ren :=
  [⟨[b!"foo_bar", b!"foo_bar", b!"foo_bar"], [b!"foo_bar", b!"foo_bar", b!"baz_qux"], .dir⟩,
   ⟨[b!"foo_bar", b!"foo_bar"], [b!"foo_bar", b!"baz_qux"], .dir⟩,
   ⟨[b!"foo_bar"], [b!"baz_qux"], .dir⟩,
   ⟨[b!"foo_bar", b!"foo_bar", b!"foo_bar", b!"foo_bar.txt"], [b!"foo_bar", b!"foo_bar", b!"foo_bar", b!"baz_qux.txt"], .file⟩,
   ⟨[b!"foo_bar", b!"foo_bar_only.md"], [b!"foo_bar", b!"baz_qux_only.md"], .file⟩]

theorem nested_guards : C02ren.LastOnly nestedRens ∧ C02ren.DistinctSources nestedRens ∧ C02ren.TreeWF nestedTree ∧
    C02ren.KindsOk nestedTree nestedRens ∧ C02ren.DestFree nestedTree nestedRens := by decide +kernel

/-- non-vacuity of `undo_paths`: the guards hold on the 3-level example … -/
example : C02ren.LastOnly nestedRens ∧ C02ren.DistinctSources nestedRens ∧ C02ren.TreeWF nestedTree ∧
    C02ren.KindsOk nestedTree nestedRens ∧ C02ren.DestFree nestedTree nestedRens := nested_guards

/-- … and the model evaluates to the original tree on it (independently of the theorem). -/
example : undoRenames nestedRens (C02ren.moveAll nestedRens nestedTree) = (nestedTree, none) := by decide +kernel

/-- THE OLD DEFECT (before "fix: undo renames directories back shallowest first"): with directories processed deepest
    first the inner mappings are looked up at `foo_bar/foo_bar/baz_qux`, `foo_bar/baz_qux` while the tree still has
    `baz_qux/baz_qux/baz_qux`; `exists()` says no, they are skipped, and only the outermost directory comes back. -/
theorem undoRenamesOld_witness_nested :
    (undoRenamesOld nestedRens (C02ren.moveAll nestedRens nestedTree)).2 = none ∧
    (undoRenamesOld nestedRens (C02ren.moveAll nestedRens nestedTree)).1 ≠ nestedTree ∧
    lookup (undoRenamesOld nestedRens (C02ren.moveAll nestedRens nestedTree)).1 [b!"foo_bar", b!"baz_qux"]
      = some (.dir 493) := by decide +kernel

open RenamePhase UndoLemmas in
/-- `G01`: the guard of `undo_apply_id`.  Clause by clause:
    * `lastOnly … destFree` — the guards of the rename-phase theorem (`C02ren.renamePhase_ok`); every plan the planner
      emits and the pre-flight accepts satisfies them;
    * `applyOk`   — "after any successful apply".
    Nothing is asked of the edited files (they are visited once each, `PathOrder.sortedFiles_nodup`: `PathBuf`'s order
    is a strict total order, `insertPath` keeps the keys ascending), of the kind of the renamed nodes (symlinks included:
    the guard of STEP 1 is lstat) or of the bytes in the paths of edited files (`" \ CR LF` included: the header names
    are quoted).
    Not expressible in the tree model and therefore outside the theorem: permissions of the user running undo
    (undo writes through a temp file like apply, so a read-only FILE is restored; a read-only DIRECTORY stops both). -/
structure G01 (t : Tree) (p : Plan) : Prop where
  lastOnly : C02ren.LastOnly p.rens
  distinct : C02ren.DistinctSources p.rens
  treeWF : C02ren.TreeWF t
  kinds : C02ren.KindsOk t p.rens
  destFree : C02ren.DestFree t p.rens
  applyOk : (applyPlan t p).outcome = .ok

open RenamePhase UndoLemmas in
/-- UNDO ∘ APPLY = ID.  For every tree and plan in `G01` and every diff library satisfying `Contract`:
    apply succeeds, undo succeeds, and the tree after undo is literally the tree before apply — every path, byte,
    mode and link target, in the same order (files edited AND renamed AND inside renamed directories, renamed
    symlinks, and paths with any bytes included). -/
theorem undo_apply_id (cfg : Cfg) (hc : Contract cfg) (t : Tree) (p : Plan) (g : G01 t p) :
    ∃ u, applyUndo cfg t p = (.ok, some u) ∧ u.outcome = .ok ∧ u.tree = t := by
  have hlo := g.lastOnly.toLemma
  have h3 := g.treeWF.toLemma
  have h5 : GDestFree t p.rens := g.destFree
  -- the whole apply: the content phase leaves `t1`, the rename phase moves it, STEP 4 reads every edited file back
  obtain ⟨hpf, t1, hcp, happ⟩ := applyPlan_ok g.applyOk
  let r : Result := ⟨.ok, moveAll p.rens t1, (sortRens p.rens).map (fun r => (r.path, finalPath p.rens r.path))⟩
  have hr : renamePhase t1 [] (sortRens p.rens) = r := renamePhase_after_content hlo g.distinct h3 g.kinds.toLemma h5 hcp
  rw [hr] at happ
  have hall := g.applyOk
  rw [applyPlan_pass hpf, applyCore_eq hcp, hr, if_pos rfl] at hall
  have hs := sameShape_contentPhase p.hunks (sortedFiles p.hunks) t
  rw [hcp] at hs
  have g1 : Guards t1 p.rens := ⟨hlo, g.distinct, h3.sameShape hs, g.kinds.toLemma.sameShape hs, h5.sameShape hs⟩
  have hin := contentPhase_lookup hcp
  have hout : ∀ k, k ∉ sortedFiles p.hunks → lookup t1 k = lookup t k := fun k hk => by
    have := ContentPhase.contentPhase_frame p.hunks k _ t fun f hf he => hk (he ▸ hf)
    rwa [hcp] at this
  have hcur : ∀ f, currentPath r.performed f = finalPath p.rens f :=
    currentPath_sortRens p.rens g1.ds (fileLeaf_of_guards h3 hlo g.kinds.toLemma)
  -- per edited file: its bytes before apply and after the edits, as `generate_reverse_patches` reads them
  have hfile : ∀ f ∈ sortedFiles p.hunks, ∃ c0 m c1, lookup t f = some (.file c0 m) ∧ Utf8.valid c0 = true ∧
      lookup t1 f = some (.file c1 m) ∧ Utf8.valid c1 = true ∧
      readStr r.tree (currentPath r.performed f) = some c1 := by
    intro f hf
    obtain ⟨c0, m, c1, hl0, hv0, hl1⟩ := hin f hf
    have hlm : lookup (moveAll p.rens t1) (finalPath p.rens f) = some (.file c1 m) := by
      rw [← hl1]; exact lookup_moveAll g1.lo g1.wf g1.df (mem_of_lookup hl1)
    have hv1 : Utf8.valid c1 = true := by
      have := List.all_eq_true.1 (backupPhase_ok hall) f hf
      rwa [hcur f, readable, hlm] at this
    exact ⟨c0, m, c1, hl0, hv0, hl1, hv1, readStr_of_file ((hcur f).symm ▸ hlm) hv1⟩
  refine ⟨{ outcome := .ok, tree := t }, ?_, rfl, rfl⟩
  simp only [applyUndo, applyFull, happ, undoRenaming, undo_paths_core g1, r]
  show (Apply.Outcome.ok, some (match applyPatches cfg t1 (reversePatches cfg t r (sortedFiles p.hunks)) 0 with
    | (t2, 0) => ({ outcome := .ok, tree := t2 } : UResult)
    | (t2, n) => { outcome := .patchFailed n, tree := t2 })) = _
  rw [applyPatches_reverse hc h3.1 (PathOrder.sortedFiles_nodup p.hunks) 0 hs.1 hout hfile]
  rfl

/-- non-vacuity of `G01`: the 3-level example with the innermost file edited (and renamed, inside renamed directories)
    and an edited-only file -/
def nestedPlan : Plan :=
  { hunks := [{ file := [b!"foo_bar", b!"foo_bar", b!"foo_bar", b!"foo_bar.txt"], before := b!"foo_bar", after := b!"baz_qux", start := 2, stop := 9 },
              { file := [b!"foo_bar", b!"foo_bar", b!"other.txt"], before := b!"fooBar", after := b!"bazQux", start := 0, stop := 6 }],
    rens := nestedRens }

example : G01 nestedTree nestedPlan :=
  ⟨nested_guards.1, nested_guards.2.1, nested_guards.2.2.1, nested_guards.2.2.2.1, nested_guards.2.2.2.2,
    by decide +kernel⟩

/-- … and on it the driver's instance of the model evaluates to the identity (independently of the theorem) -/
example : (applyUndo driverCfg nestedTree nestedPlan).1 = .ok ∧
    ((applyUndo driverCfg nestedTree nestedPlan).2.map (fun u => (u.outcome, u.tree))) = some (.ok, nestedTree) := by
  decide +kernel

/-- … also with a renamed dangling symlink and an edited file whose name carries a double quote and a backslash -/
def hostilePlanTree : Tree :=
  [([b!"foo_bar_dangling"], .link b!"nowhere"),
   ([b!"foo_bar-link"], .link b!"foo_bar.txt"),
   ([b!"foo_bar.txt"], .file b!"tgt\n" 436),
   ([b!"say \"foo_bar\" a\\b.txt"], .file b!"say foo_bar\r\n-- foo_bar" 292)]

def hostilePlan : Plan :=
  { hunks := [{ file := [b!"say \"foo_bar\" a\\b.txt"], before := b!"foo_bar", after := b!"baz_qux", start := 4, stop := 11 },
              { file := [b!"say \"foo_bar\" a\\b.txt"], before := b!"foo_bar", after := b!"baz_qux", start := 16, stop := 23 }],
    rens := [⟨[b!"foo_bar_dangling"], [b!"baz_qux_dangling"], .file⟩, ⟨[b!"foo_bar-link"], [b!"baz_qux-link"], .file⟩,
             ⟨[b!"foo_bar.txt"], [b!"baz_qux.txt"], .file⟩,
             ⟨[b!"say \"foo_bar\" a\\b.txt"], [b!"say \"baz_qux\" a\\b.txt"], .file⟩] }

example : G01 hostilePlanTree hostilePlan :=
  ⟨by decide +kernel, by decide +kernel, by decide +kernel, by decide +kernel, by decide +kernel, by decide +kernel⟩

/-- REPAIRED BEHAVIOUR, kernel-evaluated on the driver's instance: dangling link, link to a renamed sibling, quoted
    and backslashed file name, mode 0444, CRLF and no final newline — all restored -/
theorem undo_apply_id_hostile :
    (applyUndo driverCfg hostilePlanTree hostilePlan).1 = .ok ∧
    ((applyUndo driverCfg hostilePlanTree hostilePlan).2.map (fun u => (u.outcome, u.tree)))
      = some (.ok, hostilePlanTree) := by decide +kernel

/-- The destination guard of `G01` need not be assumed (repo commit 01297aa): an apply that SUCCEEDED has
    passed the pre-flight loop, and the loop is exactly `DestFree` (`C02ren.destFree_iff_preflight_loop`).  So for every
    plan whose renames change only the last component of distinct existing sources: apply succeeded ⇒ undo restores
    the tree literally. -/
theorem undo_apply_id_of_ok (cfg : Cfg) (hc : Contract cfg) (t : Tree) (p : Plan)
    (h1 : C02ren.LastOnly p.rens) (h2 : C02ren.DistinctSources p.rens) (h3 : C02ren.TreeWF t)
    (h4 : C02ren.KindsOk t p.rens) (hok : (applyPlan t p).outcome = .ok) :
    ∃ u, applyUndo cfg t p = (.ok, some u) ∧ u.outcome = .ok ∧ u.tree = t := by
  exact undo_apply_id cfg hc t p
    ⟨h1, h2, h3, h4, (C02ren.apply_ok_moves t p h1 h2 h3 h4 hok).1, hok⟩

/-- `C01_full`: the property without the rename-set guards.  What separates it from `undo_apply_id_of_ok` is only that
    the plan is one the planner can emit (`lastOnly`, `distinct`, `kinds`: C08). -/
def C01_full : Prop :=
  ∀ (cfg : Cfg), Contract cfg → ∀ (t : Tree) (p : Plan), C02ren.TreeWF t → (applyPlan t p).outcome = .ok →
    ∃ u, applyUndo cfg t p = (.ok, some u) ∧ u.outcome = .ok ∧ u.tree = t

/-- the hand-made plan that used to refute `C01_full` (two sources, one destination: a file was lost at apply time and
    could not be restored) is refused up front since repo commit 01297aa; the rename phase on its own still loses it -/
theorem two_to_one_now_refused :
    let t : Tree := [([b!"a"], .file b!"A" 420), ([b!"b"], .file b!"B" 420)]
    let p : Plan := { hunks := [], rens := [⟨[b!"a"], [b!"c"], .file⟩, ⟨[b!"b"], [b!"c"], .file⟩] }
    C02ren.TreeWF t ∧ (applyPlan t p).outcome = .sharedDest ∧ (applyPlan t p).tree = t ∧
    (renamePhase t [] (sortRens p.rens)).outcome = .ok ∧
    (renamePhase t [] (sortRens p.rens)).tree = [([b!"c"], .file b!"B" 420)] := by decide +kernel

/-- THE OLD DEFECT (before "fix: undo renames dangling symlinks back"): with the `exists()` guard, which follows links,
    a renamed dangling symlink is skipped — undo reported success and the link kept its new name; with the lstat
    guard it comes back. -/
theorem undoRenamesFollow_witness_dangling :
    let t : Tree := [([b!"foo_bar_dangling"], .link b!"nowhere"), ([b!"keep.txt"], .file b!"k" 420)]
    let rs : List Ren := [⟨[b!"foo_bar_dangling"], [b!"baz_qux_dangling"], .file⟩]
    undoRenamesFollow rs (C02ren.moveAll rs t)
      = ([([b!"baz_qux_dangling"], .link b!"nowhere"), ([b!"keep.txt"], .file b!"k" 420)], none) ∧
    undoRenames rs (C02ren.moveAll rs t) = (t, none) := by decide +kernel

end C01
