import RModel.Gen.ExecFlags
import RModel.Base.Lit
import RModel.Model.Serde
import RModel.Lemmas.Serde
import RModel.Gen.SerdeSchema
import RModel.Gen.SerdeVerdict
/-
  C17 — Plans survive being saved and reloaded.   (property theorems only)

  Model: `Serde.ser` / `Serde.de` are serde-derive's rules for a struct, driven by a schema of field
  attributes; `Gen.planTy` / `Gen.historyEntryTy` are regenerated from the `#[serde(...)]` attributes of
  `Plan, MatchHunk, Rename, Stats, RenameKind, Style, HistoryEntry` on every run.

  Full statement (`C17_full`): every well-typed plan value `v` satisfies `de planTy (ser planTy v) = ok v`.
  It is equivalent to `SchemaOk Gen.planTy` (`C17_full_iff`), a closed decidable fact about the generated
  schema that the translator records in `Gen/SerdeVerdict.lean` (`Gen.planVerdict`, `Gen.planVerdict_is_true`),
  re-checked by `decide`.  Since repo commit 7e5290d (`#[serde(default)]` on `MatchHunk.replace` and
  `Rename.new_path`) the verdict is `true` and the property is proved unguarded.
-/
namespace C17
open Serde

/-- Exact characterisation, any schema: a value survives `save; load` iff wherever one of its fields is
    skipped on writing, the missing-key rule of that field returns exactly the skipped value. -/
theorem roundtrip_iff (t : Ty) (v : RVal) (hwf : wf t = true) (hw : wellTyped t v = true) :
    de t (ser t v) = .ok v ↔ guard t v = true :=
  Serde.roundtrip_iff t v hwf hw

/-- Flat form of the same statement for one struct whose field values round-trip individually:
    the struct round-trips iff no field is (skipped ∧ required) and every skipped field's default is its value. -/
theorem struct_roundtrip_iff (n : Bytes) (deny : Bool) (fs : List Field) (vs : List RVal)
    (hwf : wf (.struct n deny fs) = true) (hw : wellTyped (.struct n deny fs) (.record vs) = true) :
    de (.struct n deny fs) (ser (.struct n deny fs) (.record vs)) = .ok (.record vs)
      ↔ guardFields fs vs = true :=
  Serde.roundtrip_iff _ _ hwf hw

/-- what `guardFields` says for the first field: skipped ⇒ the missing-key value is the value (in particular
    the field is not `required`); not skipped ⇒ the field's own value round-trips -/
theorem guardFields_cons (n : Bytes) (t : Ty) (k : Skip) (m : Missing) (fs : List Field) (v : RVal) (vs : List RVal) :
    guardFields (.mk n t k m :: fs) (v :: vs) = true ↔
      ((skipped k v = true → missingValue t m = some v) ∧ (skipped k v = false → guard t v = true))
        ∧ guardFields fs vs = true := by
  show ((if skipped k v then decide (missingValue t m = some v) else guard t v) && guardFields fs vs) = true ↔ _
  cases skipped k v <;> simp

/-- a skipped required field always breaks the round-trip -/
theorem required_skipped_breaks (n : Bytes) (t : Ty) (k : Skip) (fs : List Field) (v : RVal) (vs : List RVal)
    (hs : skipped k v = true) : guardFields (.mk n t k .required :: fs) (v :: vs) = false := by
  show ((if skipped k v then decide (none = some v) else guard t v) && guardFields fs vs) = false
  rw [hs]
  rfl

theorem vec_roundtrip_iff (t : Ty) (vs : List RVal) (hwf : wf t = true) (hw : ∀ x ∈ vs, wellTyped t x = true) :
    de (.vec t) (ser (.vec t) (.list vs)) = .ok (.list vs) ↔ ∀ x ∈ vs, de t (ser t x) = .ok x := by
  rw [Serde.roundtrip_iff (.vec t) (.list vs) hwf (List.all_eq_true.mpr hw)]
  show vs.all (guard t) = true ↔ _
  rw [List.all_eq_true]
  exact forall₂_congr fun x hx => (Serde.roundtrip_iff t x hwf (hw x hx)).symm

theorem opt_roundtrip_iff (t : Ty) (x : RVal) (hwf : wf t = true) (hno : t.isOpt = false) (hw : wellTyped t x = true) :
    de (.opt t) (ser (.opt t) (.some x)) = .ok (.some x) ↔ de t (ser t x) = .ok x := by
  rw [Serde.roundtrip_iff (.opt t) (.some x) (show (!t.isOpt && wf t) = true by rw [hno, hwf]; rfl) hw,
      Serde.roundtrip_iff t x hwf hw]
  rfl

theorem opt_none_roundtrip (t : Ty) : de (.opt t) (ser (.opt t) .none) = .ok .none := rfl

/-- The decidable schema check is sufficient: every skippable field has a missing-key rule returning the
    skipped value ⇒ every well-typed value round-trips. -/
theorem roundtrip_of_schemaOk (t : Ty) (h : SchemaOk t = true) (v : RVal) (hw : wellTyped t v = true) :
    de t (ser t v) = .ok v :=
  Serde.roundtrip_of_schemaOk t h v hw

/-- … and with a list of excepted fields, for every value in which none of those is skipped. -/
theorem roundtrip_of_schemaOkExcept (bad : List (Bytes × Bytes)) (t : Ty) (v : RVal)
    (hs : SchemaOkExcept bad t = true) (hw : wellTyped t v = true) (hg : guardOn bad t v = true) :
    de t (ser t v) = .ok v :=
  Serde.roundtrip_of_schemaOkExcept bad t v hs hw hg

/-- the property at full strength -/
def C17_full : Prop := ∀ v, wellTyped Gen.planTy v = true → de Gen.planTy (ser Gen.planTy v) = .ok v

/-- The full theorem in terms of the verdict the translator records for the schema it extracted. -/
theorem plan_roundtrip (h : Gen.planVerdict = true) : C17_full :=
  fun v hw => Serde.roundtrip_of_schemaOk Gen.planTy (Gen.planVerdict_eq.trans h) v hw

/-- Every skippable field of `Plan`, `MatchHunk`, `Rename` (as regenerated from the source on this run) is
    restored on reading.  `Gen.planVerdict_is_true` exists only if the translator found the schema fine and is
    re-checked by `decide`; this line fails to compile as soon as a field is dropped-but-required again
    (a removed `default` on a non-`Option` field, a new `skip_serializing_if` without `default`). -/
theorem schemaOk_plan : SchemaOk Gen.planTy = true := Gen.planVerdict_eq.trans Gen.planVerdict_is_true

/-- **C17 (serialisation half), unguarded**: every well-typed plan value — from any planner entry point, with
    empty replacement strings, any text, absolute or relative paths, every optional field present or absent —
    written with the derive rules and read back is the same plan. -/
theorem plan_roundtrip_all : C17_full := plan_roundtrip Gen.planVerdict_is_true

/-- Non-vacuity: the fully populated plan is well-typed, and so is the plan of a deletion (the value in which
    a hunk's `replace` is the empty string), which round-trips since 7e5290d. -/
example : wellTyped Gen.planTy (sample Gen.planTy) = true := by decide +kernel
example : (witnessFor b!"MatchHunk" b!"replace" Gen.planTy).map
            (fun w => (wellTyped Gen.planTy w, decide (de Gen.planTy (ser Gen.planTy w) = .ok w))) = some (true, true) := by
  decide +kernel
example : (witnessFor b!"Rename" b!"new_path" Gen.planTy).map
            (fun w => (wellTyped Gen.planTy w, decide (de Gen.planTy (ser Gen.planTy w) = .ok w))) = some (true, true) := by
  decide +kernel

/-- Every field the schema check reports is a genuine counterexample: the value built from it
    (`witnessFor`: that field skipped, everything else populated) is a well-typed plan that does not survive. -/
def witnessFails (t : Ty) (p : Bytes × Bytes) : Bool :=
  match witnessFor p.1 p.2 t with
  | some w => wellTyped t w && !decide (de t (ser t w) = .ok w)
  | none => false

/-- For a schema all of whose reported fields are witnessed, the check is exact: the witness of a reported field
    is a well-typed value that does not survive. -/
theorem roundtrip_all_iff_schemaOk (t : Ty) (hwf : wf t = true) (hwit : (offending t).all (witnessFails t) = true) :
    (∀ v, wellTyped t v = true → de t (ser t v) = .ok v) ↔ SchemaOk t = true := by
  refine ⟨fun hall => ?_, Serde.roundtrip_of_schemaOk t⟩
  unfold SchemaOk
  rw [hwf, Bool.true_and]
  cases ho : offending t with
  | nil => rfl
  | cons p ps =>
    have hp : witnessFails t p = true := List.all_eq_true.mp hwit p (ho ▸ List.mem_cons_self)
    unfold witnessFails at hp
    cases hw : witnessFor p.1 p.2 t with
    | none => rw [hw] at hp; cases hp
    | some w =>
      rw [hw, Bool.and_eq_true, Bool.not_eq_true', decide_eq_false_iff_not] at hp
      exact absurd (hall w hp.1) hp.2

theorem plan_offending_witnessed : (offending Gen.planTy).all (witnessFails Gen.planTy) = true := by decide +kernel

/-- the decidable check is exact for the generated schema: C17 holds iff the verdict is `true` -/
theorem C17_full_iff : C17_full ↔ Gen.planVerdict = true := by
  rw [← Gen.planVerdict_eq]
  exact roundtrip_all_iff_schemaOk Gen.planTy (by decide +kernel) plan_offending_witnessed

-- the schema before repo commit 7e5290d (kept as a constant: the defect that was found and repaired) -----

namespace Old

/-- `MatchHunk` as it was: `replace` dropped when empty, no `default` -/
def matchHunkTy : Ty := .struct b!"MatchHunk" false [
  .mk b!"file" .path .never .required,
  .mk b!"line" .num .never .required,
  .mk b!"byte_offset" .num .never .required,
  .mk b!"char_offset" .num .never .required,
  .mk b!"variant" .str .never .required,
  .mk b!"content" .str .never .required,
  .mk b!"replace" .str .strEmpty .required,
  .mk b!"start" .num .never .required,
  .mk b!"end" .num .never .required,
  .mk b!"line_before" (.opt .str) .optNone .implicitNone,
  .mk b!"line_after" (.opt .str) .optNone .implicitNone,
  .mk b!"coercion_applied" (.opt .str) .optNone .implicitNone,
  .mk b!"original_file" (.opt .path) .optNone .default,
  .mk b!"renamed_file" (.opt .path) .optNone .default,
  .mk b!"patch_hash" (.opt .str) .optNone .default]

/-- `Rename` as it was: `new_path` dropped when empty, no `default` -/
def renameTy : Ty := .struct b!"Rename" false [
  .mk b!"path" .path .never .required,
  .mk b!"new_path" .path .pathEmpty .required,
  .mk b!"kind" (.enum b!"RenameKind" [b!"file", b!"dir"]) .never .required,
  .mk b!"coercion_applied" (.opt .str) .optNone .implicitNone]

def planTy : Ty := .struct b!"Plan" false [
  .mk b!"id" .str .never .required,
  .mk b!"created_at" .str .never .required,
  .mk b!"search" .str .never .required,
  .mk b!"replace" .str .never .required,
  .mk b!"styles" (.vec (.enum b!"Style" [b!"Snake", b!"Kebab", b!"Camel", b!"Pascal"])) .never .required,
  .mk b!"includes" (.vec .str) .never .required,
  .mk b!"excludes" (.vec .str) .never .required,
  .mk b!"matches" (.vec matchHunkTy) .never .required,
  .mk b!"paths" (.vec renameTy) .never .required,
  .mk b!"stats" (.struct b!"Stats" false [
      .mk b!"files_scanned" .num .never .required,
      .mk b!"total_matches" .num .never .required,
      .mk b!"matches_by_variant" (.map .num) .never .required,
      .mk b!"files_with_matches" .num .never .required]) .never .required,
  .mk b!"version" .str .never .required,
  .mk b!"created_directories" (.opt (.vec .path)) .optNone .default]

def knownBad : List (Bytes × Bytes) := [(b!"MatchHunk", b!"replace"), (b!"Rename", b!"new_path")]

end Old

/-- the old schema failed the check, through exactly the two fields -/
theorem old_schema_offending : offending Old.planTy = Old.knownBad ∧ SchemaOk Old.planTy = false := by decide +kernel

/-- what did hold before the repair: every plan without an empty `replace` / `new_path` survived -/
theorem old_plan_roundtrip_partial (v : RVal) (hw : wellTyped Old.planTy v = true)
    (hg : guardOn Old.knownBad Old.planTy v = true) : de Old.planTy (ser Old.planTy v) = .ok v :=
  Serde.roundtrip_of_schemaOkExcept Old.knownBad Old.planTy v (by decide +kernel) hw hg

example : wellTyped Old.planTy (sample Old.planTy) = true ∧ guardOn Old.knownBad Old.planTy (sample Old.planTy) = true := by
  decide +kernel

/-- Defect 1 (repaired by 7e5290d): the plan of a deletion — a hunk whose `replace` is empty — was written
    without the key and could not be loaded: "missing field `replace`"
    (`rename foo_bar "" -y` then `undo`; `plan foo_bar ""` then `apply`). -/
theorem C17_witness_empty_replace :
    (witnessFor b!"MatchHunk" b!"replace" Old.planTy).map
        (fun w => (wellTyped Old.planTy w, de Old.planTy (ser Old.planTy w)))
      = some (true, .error (.missingField b!"replace")) := by decide +kernel

/-- Defect 2 (repaired by 7e5290d): a rename with an empty `new_path` (what an empty replacement plans for
    every matching name) could not be loaded: "missing field `new_path`". -/
theorem C17_witness_empty_new_path :
    (witnessFor b!"Rename" b!"new_path" Old.planTy).map
        (fun w => (wellTyped Old.planTy w, de Old.planTy (ser Old.planTy w)))
      = some (true, .error (.missingField b!"new_path")) := by decide +kernel

/-- the same two values survive under the current schema (the repair is what makes the difference) -/
theorem repaired_witnesses_roundtrip :
    (witnessFor b!"MatchHunk" b!"replace" Gen.planTy).map (fun w => decide (de Gen.planTy (ser Gen.planTy w) = .ok w)) = some true ∧
    (witnessFor b!"Rename" b!"new_path" Gen.planTy).map (fun w => decide (de Gen.planTy (ser Gen.planTy w) = .ok w)) = some true := by
  decide +kernel

/-- a plain loader is the parser -/
theorem load_plain (accept : RVal → Bool) (t : Ty) (j : J) : load true accept t j = de t j := by
  unfold load
  cases de t j <;> rfl

/-- … and a loader with an acceptance condition is not: whatever parses but is not accepted is lost.
    (`read_plan`-style version gates are of this form: the schema is fine, the value parses, the load fails.) -/
theorem load_rejects (accept : RVal → Bool) (t : Ty) (v : RVal) (h : de t (ser t v) = .ok v) (hr : accept v = false) :
    load false accept t (ser t v) = .error .rejected := by
  unfold load; rw [h]; simp [hr]

/-- **C17, code-level statement**: whatever the planners produce (any well-typed plan), written by the code and
    read back by any of the code's loaders (`Gen.loaderSites`: apply from a path / an id / the default file, undo,
    redo, status), is the same plan.  `Gen.loadersPlain_is_true` exists only if the translator found no rejection
    depending on the loaded value after any parse of a `Plan`; a new acceptance condition removes it and this
    theorem stops compiling. -/
theorem plan_load_roundtrip_all (accept : RVal → Bool) (v : RVal) (hw : wellTyped Gen.planTy v = true) :
    load Gen.loadersPlain accept Gen.planTy (ser Gen.planTy v) = .ok v := by
  rw [Gen.loadersPlain_is_true, load_plain]; exact plan_roundtrip_all v hw


/-- non-vacuity of `load_rejects`: a version gate on a one-field plan -/
example : load false (fun v => decide (v = .record [.str b!"1.0.0"])) (.struct b!"P" false [.mk b!"version" .str .never .required])
            (ser (.struct b!"P" false [.mk b!"version" .str .never .required]) (.record [.str b!"0.6.0"]))
          = .error .rejected := by decide +kernel

/-- The mechanism in isolation (fixed schema, independent of the generated one): `skip_serializing_if`
    without `default` loses the empty string; with `default` it is restored. -/
theorem skip_without_default_fails :
    de (.struct b!"H" false [.mk b!"content" .str .never .required, .mk b!"replace" .str .strEmpty .required])
       (ser (.struct b!"H" false [.mk b!"content" .str .never .required, .mk b!"replace" .str .strEmpty .required])
            (.record [.str b!" foo", .str b!""]))
      = .error (.missingField b!"replace") := by decide +kernel

theorem skip_with_default_roundtrips :
    de (.struct b!"H" false [.mk b!"content" .str .never .required, .mk b!"replace" .str .strEmpty .default])
       (ser (.struct b!"H" false [.mk b!"content" .str .never .required, .mk b!"replace" .str .strEmpty .default])
            (.record [.str b!" foo", .str b!""]))
      = .ok (.record [.str b!" foo", .str b!""]) := by decide +kernel

/-- the same for `PathBuf` / `is_empty_path` -/
theorem skip_path_without_default_fails :
    de (.struct b!"R" false [.mk b!"path" .path .never .required, .mk b!"new_path" .path .pathEmpty .required])
       (ser (.struct b!"R" false [.mk b!"path" .path .never .required, .mk b!"new_path" .path .pathEmpty .required])
            (.record [.str b!"a/b", .str b!""]))
      = .error (.missingField b!"new_path") := by decide +kernel

/-- `Option` fields are safe with or without `default`: a missing key is `None` -/
theorem option_skip_is_safe (m : Missing) (hm : m = .default ∨ m = .implicitNone) (t : Ty) :
    fieldOk (.opt t) .optNone m = true := by
  rcases hm with rfl | rfl <;> rfl

/-- The history file (`Vec<HistoryEntry>`) always round-trips: no field of `HistoryEntry` is skippable
    (the check of a `Vec` is the check of its element type). -/
theorem history_roundtrip (v : RVal) (hw : wellTyped Gen.historyTy v = true) :
    de Gen.historyTy (ser Gen.historyTy v) = .ok v :=
  Serde.roundtrip_of_schemaOk Gen.historyTy
    ((Serde.schemaOk_vec Gen.historyEntryTy).trans (Gen.historyVerdict_eq.trans Gen.historyVerdict_is_true)) v hw

theorem history_load_roundtrip_all (accept : RVal → Bool) (v : RVal) (hw : wellTyped Gen.historyTy v = true) :
    load Gen.loadersPlain accept Gen.historyTy (ser Gen.historyTy v) = .ok v := by
  rw [Gen.loadersPlain_is_true, load_plain]
  exact history_roundtrip v hw

example : wellTyped Gen.historyTy (sample Gen.historyTy) = true := by decide +kernel

/-- "Applying a saved plan has the same effect as applying it directly": whatever `apply` does with a plan,
    doing it with the reloaded plan gives the same result, for every plan that round-trips. -/
theorem apply_saved_eq_apply_direct {α} (apply : RVal → α) (t : Ty) (v : RVal)
    (h : de t (ser t v) = .ok v) : okMap apply (de t (ser t v)) = (.ok (apply v) : Except DeErr α) := by
  rw [h]; rfl

theorem apply_saved_plan {α} (apply : RVal → α) (v : RVal) (hw : wellTyped Gen.planTy v = true) :
    okMap apply (de Gen.planTy (ser Gen.planTy v)) = (.ok (apply v) : Except DeErr α) :=
  apply_saved_eq_apply_direct apply _ v (plan_roundtrip_all v hw)

/-- what is on disk after `write_plan` is the serialised value and NOTHING ELSE: the file is opened with truncation
    (`File::create`), so a longer document that an earlier `plan` left at the same path is replaced, not overlaid.  The flag
    is read from the source of `scanner.rs::write_plan` on every run; seeds C17e / C17f (an `OpenOptions` without
    `truncate(true)`) flip it, and the check's second write over a longer document shows the leftover tail. -/
theorem plan_file_replaced_not_overlaid : ExecFlags.planWriteTruncates = true := rfl

end C17
