import RModel.Model.Signals
import RModel.Lemmas.Signals
/-
  C13 — Interrupts never leave a half-applied rename.

  The model (`Model/Signals.lean`): a run is the command's program with signal events inserted anywhere; what
  an event does is the *generated* description of the handler bodies (`Gen/SignalHandlers.lean`).
  The generated facts (`handlers_only_set_flag`, `signal_context_handlers_async_signal_safe`,
  `flag_checked_after_command`, `prompt_guard_facts`) are extracted from main.rs / interrupt.rs / lock.rs on every run:
  a `process::exit` added to a handler, a dropped flag check, a flag test moved back in front of the result, a changed
  exit code, a prompt exit that no longer releases the held locks, or a second user of the prompt guard breaks one of
  them by name.
-/

namespace C13
open Signals

/-- Neither handler exits unconditionally, both store the flag, neither calls anything else; only SIGINT has an
    exit under the prompt guard, with the interrupt code, and it releases the held locks first — each only if the file
    still carries this process's `pid:timestamp` (as does `LockFile::drop`). -/
theorem handlers_only_set_flag :
    (∀ s, (genHandlers s).exitAlways = none ∧ (genHandlers s).setsFlag = true ∧ (genHandlers s).otherCalls = 0) ∧
    (genHandlers .int).exitUnderPrompt = some 130 ∧ (genHandlers .int).releasesLocks = true ∧
    (genHandlers .term).exitUnderPrompt = none ∧
    Gen.SignalHandlers.extraHandlers = 0 ∧ Gen.SignalHandlers.heldLocksReleasable = true ∧
    Gen.SignalHandlers.releaseChecksOwnership = true := by
  refine ⟨fun s => ?_, by decide⟩
  cases s <;> decide

/-- The SIGTERM handler is registered with `signal_hook::low_level::register` and therefore runs in real signal context,
    possibly inside the interrupted thread's own `eprintln!`: its body consists of async-signal-safe operations only
    (an atomic store).  Printing there panicked on the borrowed stderr handle and aborted the process (status -6,
    lock left behind) until 4ef3457.  The SIGINT handler runs on ctrlc's own thread and may print and exit. -/
theorem signal_context_handlers_async_signal_safe :
    Gen.SignalHandlers.signalContextHandlers = 1 ∧ Gen.SignalHandlers.signalContextUnsafeCalls = 0 ∧
    Gen.SignalHandlers.signalContextHandlersStoreFlag = true := by decide

/-- The flag is read after the command returned and tested only in the `Ok` arm of the result match; the code is
    130; the command's own failure codes are 1, 2, 3. -/
theorem flag_checked_after_command :
    Gen.SignalHandlers.flagScope = .okOnly ∧
    Gen.SignalHandlers.interruptExitCode = 130 ∧ Gen.SignalHandlers.errorExitCodes = [1, 2, 3] := by decide

/-- No command but the hidden `test-lock` receives the flag; the prompt guard is well formed and is activated
    only by `rename`'s confirmation prompt. -/
theorem prompt_guard_facts :
    Gen.SignalHandlers.flagPassedOnlyToTestLock = true ∧ Gen.SignalHandlers.promptGuardWellFormed = true ∧
    Gen.SignalHandlers.promptGuardOnlyInRenameConfirmation = true := by decide

variable {ε ω : Type}

theorem gen_noExitAlways : NoExitAlways genHandlers := fun s => (handlers_only_set_flag.1 s).1

/-- Signals do not change effects.  For every handler table in which no handler exits unconditionally, every
    world, every meaning of effects, and every run `items` of a program without confirmation-prompt guard — signal
    events at ANY positions, any number of them, either signal — the final world is the signal-free run's, no
    exit happened inside a handler, and the flag is set iff a flag-storing event occurred. -/
theorem signals_do_not_change_effects (H : Handlers) (hH : NoExitAlways H) (ap : ε → ω → ω) (rel : ω → ω) (w : ω)
    (items : List (Item ε)) (hnp : ∀ i ∈ items, isPrompt i = false) :
    (run H ap rel w items).world = (run H ap rel w (erase items)).world ∧
    (run H ap rel w items).exited = none ∧
    (run H ap rel w items).flag = flagged H items := by
  have he : (run H ap rel w items).exited = none :=
    not_exited_of_noPromptOn hH (fun h => Bool.noConfusion (hnp _ h)) rfl rfl
  exact ⟨(run_not_exited he).1, he, (run_not_exited he).2⟩

example : (run genHandlers apEff relWorld {} [.sig .int, .eff (.user 0), .sig .term, .sig .term, .eff .history]).world
    = (run genHandlers apEff relWorld {} [.eff (.user 0), .eff .history]).world := by decide +kernel

theorem gen_flagged (items : List (Item ε)) : flagged genHandlers items = items.any isSig :=
  congrArg items.any (funext fun i => by
    cases i with
    | sig s => exact (handlers_only_set_flag.1 s).2.1
    | _ => rfl)

theorem genStatus_of_not_exited {st : St ω} (res : Nat) (he : st.exited = none) :
    genStatus res st = if st.flag && res == 0 then 130 else res := by
  unfold genStatus status
  rw [he, flag_checked_after_command.1, flag_checked_after_command.2.1]

/-- With the generated handlers and the generated tail of `main`: the exit status of a run without prompt guard is
    130 iff at least one signal event occurred and the command succeeded (`res = 0`); otherwise it is the command's
    own status. -/
theorem status_130_iff_signalled (ap : ε → ω → ω) (rel : ω → ω) (w : ω) (res : Nat) (items : List (Item ε))
    (hnp : ∀ i ∈ items, isPrompt i = false) :
    genStatus res (run genHandlers ap rel w items) = (if items.any isSig && res == 0 then 130 else res) := by
  obtain ⟨_, he, hf⟩ := signals_do_not_change_effects genHandlers gen_noExitAlways ap rel w items hnp
  rw [genStatus_of_not_exited res he, hf, gen_flagged]

/-- A command that fails by itself (status 1–3) reports that status, signalled or not. -/
theorem failed_command_keeps_its_status (ap : ε → ω → ω) (rel : ω → ω) (w : ω) (res : Nat) (hres : res ≠ 0)
    (items : List (Item ε)) (hnp : ∀ i ∈ items, isPrompt i = false) :
    genStatus res (run genHandlers ap rel w items) = res := by
  rw [status_130_iff_signalled ap rel w res items hnp, beq_false_of_ne hres, Bool.and_false]
  rfl

example : genStatus 3 (run genHandlers apEff relWorld {} [.eff (.user 0), .sig .term]) = 3 := by decide +kernel
example : genStatus 0 (run genHandlers apEff relWorld {} [.eff (.user 0), .sig .term]) = 130 := by decide +kernel
example : genStatus 0 (run genHandlers apEff relWorld {} [.eff (.user 0)]) = 0 := by decide +kernel

/-- Any postcondition of the signal-free run (tree complete, history entry written, lock released, no temp file
    left …) holds of every signalled run of the same program. -/
theorem signals_preserve_postconditions (ap : ε → ω → ω) (rel : ω → ω) (w : ω) (items : List (Item ε))
    (hnp : ∀ i ∈ items, isPrompt i = false) (Q : ω → Prop)
    (hq : Q (run genHandlers ap rel w (erase items)).world) :
    Q (run genHandlers ap rel w items).world := by
  rw [(signals_do_not_change_effects genHandlers gen_noExitAlways ap rel w items hnp).1]; exact hq

/-- `replace` asks "Apply these changes? [y/N]" without activating the prompt guard: in the model its program has no
    guard steps, so neither signal ever exits inside the handler there — the flag is stored, the process keeps
    waiting for the answer, performs (or declines) the operation and then ends with 130. -/
theorem unguarded_prompt_never_exits (ap : ε → ω → ω) (rel : ω → ω) (w : ω) (items : List (Item ε))
    (hnp : ∀ i ∈ items, isPrompt i = false) :
    (run genHandlers ap rel w items).exited = none ∧
    (run genHandlers ap rel w items).world = (run genHandlers ap rel w (erase items)).world :=
  have ⟨hw, he, _⟩ := signals_do_not_change_effects genHandlers gen_noExitAlways ap rel w items hnp
  ⟨he, hw⟩

/-- SIGTERM events never exit inside the handler, prompt guard or not: a program *with* a guarded prompt that only
    ever receives SIGTERM performs all its effects (the process keeps waiting for the answer). -/
theorem sigterm_never_exits (ap : ε → ω → ω) (rel : ω → ω) (w : ω) (items : List (Item ε))
    (hterm : ∀ i ∈ items, ∀ s, i = .sig s → s = .term) :
    (run genHandlers ap rel w items).world = (run genHandlers ap rel w (erase items)).world ∧
    (run genHandlers ap rel w items).exited = none := by
  obtain ⟨hall, -, -, hTermPrompt, -⟩ := handlers_only_set_flag
  have he : (run genHandlers ap rel w items).exited = none :=
    not_exited_of_quiet (fun s hs => by
      cases hterm _ hs s rfl
      exact ⟨(hall .term).1, hTermPrompt⟩) rfl
  exact ⟨(run_not_exited he).1, he⟩

/-- Exit during the prompt performs `pre` and the lock release, nothing else.  For every run of
    `pre ; prompt ; post` (signal events anywhere): if the process exited inside a handler, the world is `pre`
    applied, followed by what that handler does before it exits (release of the held locks, if it does that) — no
    effect of `post` happened — and the code is the one that handler has under the prompt guard; if it did not
    exit there, the world is the complete `pre ++ post`. -/
theorem prompt_exit_no_change (H : Handlers) (hH : NoExitAlways H) (ap : ε → ω → ω) (rel : ω → ω) (pre post : List ε)
    (items : List (Item ε)) :
    ∀ st : St ω, st.exited = none → st.prompt = false → erase items = withPrompt pre post →
      ((runFrom H ap rel st items).exited = none →
        (runFrom H ap rel st items).world = applyAll ap st.world (pre ++ post)) ∧
      (∀ c, (runFrom H ap rel st items).exited = some c →
        ∃ s, (H s).exitUnderPrompt = some c ∧
          (runFrom H ap rel st items).world = exitWorld rel (H s) (applyAll ap st.world pre)) := by
  intro st he hp herase
  constructor
  · intro h
    rw [(runFrom_not_exited h).1, ← effects_erase, herase, effects_withPrompt]
  · -- up to the prompt the handlers only store the flag, and the effects are those of `pre` one by one
    induction items generalizing pre st with
    | nil => cases pre <;> cases herase
    | cons i r ih =>
      intro c hc
      rw [runFrom_cons] at hc ⊢
      cases i with
      | sig s =>
        rw [step_sig he, handle_quiet (hH s) (Or.inl hp)] at hc ⊢
        exact ih pre { st with flag := st.flag || (H s).setsFlag } he hp herase c hc
      | eff e =>
        cases pre with
        | nil => cases herase
        | cons e' pre' =>
          injection herase with h1 ht
          cases h1
          rw [step_eff he] at hc ⊢
          exact ih pre' { st with world := ap e st.world } he hp ht c hc
      | promptOn =>
        cases pre with
        | cons e' pre' => cases herase
        | nil =>
          rw [step_promptOn he] at hc ⊢
          exact exit_in_prompt hH (st := { st with prompt := true }) he rfl (List.tail_eq_of_cons_eq herase) hc
      | promptOff => cases pre <;> cases herase

/-- The prompt exit releases the held locks (generated handlers): an exit inside a handler during
    `pre ; prompt ; post` has status 130 and leaves the world at `rel (pre applied)` — `rel` being what
    `lock::release_held_locks()` does. -/
theorem prompt_exit_releases_held_locks (ap : ε → ω → ω) (rel : ω → ω) (pre post : List ε) (w : ω)
    (items : List (Item ε)) (herase : erase items = withPrompt pre post) (c : Nat)
    (hex : (run genHandlers ap rel w items).exited = some c) :
    c = 130 ∧ (run genHandlers ap rel w items).world = rel (applyAll ap w pre) := by
  obtain ⟨s, hs, hw⟩ :=
    (prompt_exit_no_change genHandlers gen_noExitAlways ap rel pre post items { world := w } rfl rfl herase).2 c hex
  obtain ⟨-, hIntPrompt, hIntReleases, hTermPrompt, -⟩ := handlers_only_set_flag
  cases s with
  | int =>
    rw [hIntPrompt] at hs
    cases hs
    exact ⟨rfl, hw.trans (if_pos hIntReleases)⟩
  | term => rw [hTermPrompt] at hs; cases hs

/-- Corollary: every observation `user` of the world that neither the pre-prompt effects nor the lock release change
    (the user tree: before the prompt only the lock and the probe directory are touched) is exactly as it was. -/
theorem prompt_exit_user_tree_unchanged {τ : Type} (ap : ε → ω → ω) (rel : ω → ω) (user : ω → τ) (pre post : List ε)
    (hpre : ∀ e ∈ pre, ∀ w, user (ap e w) = user w) (hrel : ∀ w, user (rel w) = user w) (w : ω)
    (items : List (Item ε)) (herase : erase items = withPrompt pre post) (c : Nat)
    (hex : (run genHandlers ap rel w items).exited = some c) :
    user (run genHandlers ap rel w items).world = user w ∧ c = 130 := by
  obtain ⟨hc, hw⟩ := prompt_exit_releases_held_locks ap rel pre post w items herase c hex
  rw [hw, hrel]
  exact ⟨applyAll_invariant ap user pre hpre w, hc⟩

/-- a command as the check sees it: its program over the concrete effects (one per traced call) and the status it
    ends with by itself -/
structure Cmd where
  prog : List (Item Eff)
  res : Nat
  deriving Repr

def final (c : Cmd) (w0 : World) : World := (run genHandlers apEff relWorld w0 c.prog).world

/-- the description is sane: run alone, the command releases the lock; if it reports success it has written its
    history entry -/
def Sane (c : Cmd) (w0 : World) : Prop :=
  (final c w0).lock = false ∧ (c.res = 0 → (final c w0).history = w0.history + 1)

/-- the shapes that exist: no guarded prompt at all (rename -y, apply, undo, redo, replace with or without -y), or
    `rename` without -y: lock acquisition and probe (no user-tree or history call), the guarded prompt, the rest -/
def Shape13 (c : Cmd) : Prop :=
  (∀ i ∈ c.prog, isPrompt i = false) ∨
  ∃ pre post, c.prog = withPrompt pre post ∧ ∀ e ∈ pre, e = .lockCreate ∨ e = .other

/-- what the property demands of a signalled run:
    exit inside the handler — status 130, no change at all, lock released;
    a command that succeeds by itself — the complete operation with its history entry, lock released, status 130;
    a command that fails by itself — exactly what it does and reports without the signal (whether *that* leaves a
    partial tree is C04's subject, not the signal's doing). -/
def Good (c : Cmd) (w0 : World) (r : St World) : Prop :=
  match r.exited with
  | some code => code = 130 ∧ r.world.user = w0.user ∧ r.world.history = w0.history ∧ r.world.lock = false
  | none =>
    if c.res = 0 then
      r.world.user = (final c w0).user ∧ r.world.history = w0.history + 1 ∧ r.world.lock = false ∧ genStatus c.res r = 130
    else r.world = final c w0 ∧ genStatus c.res r = c.res

instance (c : Cmd) (w0 : World) (r : St World) : Decidable (Good c w0 r) := by
  unfold Good
  split <;> infer_instance

/-- C13 at full strength: every sane command of an existing shape, every run with at least one signal event. -/
def C13_full : Prop :=
  ∀ (c : Cmd) (w0 : World) (items : List (Item Eff)), Shape13 c → Sane c w0 → erase items = c.prog →
    items.any isSig = true → Good c w0 (run genHandlers apEff relWorld w0 items)

theorem C13_full_holds : C13_full := by
  intro c w0 items hshape hsane herase hsig
  unfold Good
  cases hex : (run genHandlers apEff relWorld w0 items).exited with
  | none =>
    -- whatever the shape, the whole program has been performed and the flag is up
    obtain ⟨hw, hf⟩ := run_not_exited hex
    rw [herase] at hw
    rw [gen_flagged, hsig] at hf
    have hst := genStatus_of_not_exited c.res hex
    rw [hf] at hst
    by_cases hr : c.res = 0
    · rw [if_pos hr, hw, hst, hr]
      exact ⟨rfl, hsane.2 hr, hsane.1, rfl⟩
    · rw [if_neg hr, hst, beq_false_of_ne hr]
      exact ⟨hw, rfl⟩
  | some code =>
    rcases hshape with hnp | ⟨pre, post, hprog, hpre⟩
    · -- no guarded prompt: no handler exits
      have hon : .promptOn ∉ items := fun h => Bool.noConfusion (hnp _ (herase ▸ mem_erase.2 ⟨h, rfl⟩))
      rw [run, not_exited_of_noPromptOn gen_noExitAlways hon rfl rfl] at hex
      cases hex
    · -- lock/probe ; guarded prompt ; rest: the exit is the one at the prompt
      have herase' := herase.trans hprog
      have hobs := prompt_exit_user_tree_unchanged apEff relWorld (fun w => (w.user, w.history)) pre post
        (fun e he w => by rcases hpre e he with rfl | rfl <;> rfl)
        (fun w => Prod.ext (relWorld_facts w).2.1 (relWorld_facts w).2.2) w0 items herase' code hex
      have hw := (prompt_exit_releases_held_locks apEff relWorld pre post w0 items herase' code hex).2
      refine ⟨hobs.2, congrArg Prod.fst hobs.1, congrArg Prod.snd hobs.1, ?_⟩
      rw [hw]
      exact (relWorld_facts _).1

/-- `rename -y` on one edited file and one rename, as traced: lock, probe, edits, history, unlock -/
def renameYes : Cmd :=
  { prog := [.eff .other, .eff .lockCreate, .eff .other, .eff (.user 0), .eff (.user 1), .eff .other, .eff .history,
             .eff .other, .eff .lockRemove],
    res := 0 }

example : Shape13 renameYes ∧ Sane renameYes {} := by
  refine ⟨Or.inl (by decide +kernel), by unfold Sane final; decide +kernel⟩

example : Good renameYes {} (run genHandlers apEff relWorld {} (deliverAt renameYes.prog 4 .int 3)) := by
  decide +kernel

/-- `rename` without `-y`: the same with the confirmation prompt after lock and probe -/
def renameAsk : Cmd :=
  { prog := withPrompt [.other, .lockCreate, .other] [.user 0, .user 1, .other, .history, .other, .lockRemove],
    res := 0 }

example : Shape13 renameAsk ∧ Sane renameAsk {} := by
  refine ⟨Or.inr ⟨_, _, rfl, by decide +kernel⟩, by unfold Sane final; decide +kernel⟩

def promptIntRun : St World := run genHandlers apEff relWorld {} (deliverAt renameAsk.prog 4 .int 1)

/-- SIGINT while the confirmation prompt is active: exit 130 inside the handler, nothing changed, and the lock file
    is removed by `release_held_locks` (one more traced call after the three pre-prompt ones). -/
theorem prompt_exit_releases_lock :
    erase (deliverAt renameAsk.prog 4 .int 1) = renameAsk.prog ∧
    promptIntRun.exited = some 130 ∧ promptIntRun.world.user = [] ∧ promptIntRun.world.history = 0 ∧
    promptIntRun.world.lock = false ∧ promptIntRun.world.calls = 4 ∧ Good renameAsk {} promptIntRun := by
  decide +kernel

/-- SIGTERM at the same point only stores the flag; once the prompt is answered the operation completes, the lock
    is released and the status is 130. -/
theorem sigterm_at_prompt_completes :
    Good renameAsk {} (run genHandlers apEff relWorld {} (deliverAt renameAsk.prog 4 .term 1)) := by
  decide +kernel

/-- Before d01db83.  With the handler table as it was (exit under the prompt without releasing the held locks)
    the same run leaves the lock file behind. -/
theorem before_fix_prompt_lock_left :
    (run oldHandlers apEff relWorld {} (deliverAt renameAsk.prog 4 .int 1)).exited = some 130 ∧
    (run oldHandlers apEff relWorld {} (deliverAt renameAsk.prog 4 .int 1)).world.lock = true ∧
    (run oldHandlers apEff relWorld {} (deliverAt renameAsk.prog 4 .int 1)).world.user = [] := by decide +kernel

/-- `apply` of a stale plan: the first file is edited, the second does not match, the command stops with status 3
    (C04: the content edit is not rolled back) -/
def staleApply : Cmd := { prog := [.eff .other, .eff (.user 0), .eff .other], res := 3 }

def staleTermRun : St World := run genHandlers apEff relWorld {} (deliverAt staleApply.prog 1 .term 1)

/-- A command that fails by itself and received a signal: same world, same status 3 as without the signal. -/
theorem failed_command_reports_failure :
    Shape13 staleApply ∧ Sane staleApply {} ∧ genStatus staleApply.res staleTermRun = 3 ∧
    staleTermRun.world = final staleApply {} ∧ Good staleApply {} staleTermRun := by
  refine ⟨Or.inl (by decide +kernel), by unfold Sane final; decide +kernel, ?_⟩
  decide +kernel

/-- Before 279b830.  With the flag tested before the result (`FlagScope.all`) the same run reports 130 over the
    partially changed tree. -/
theorem before_fix_failed_reports_130 :
    status .all 130 staleApply.res staleTermRun = 130 ∧ staleTermRun.world.user = [0] ∧
    staleTermRun.world.history = 0 := by decide +kernel

end C13
