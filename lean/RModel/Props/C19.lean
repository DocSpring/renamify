import RModel.Lemmas.Output
/-
  C19 — Machine-readable output is one well-formed, schema-conformant document.
  (property theorems; the model is Model/Output.lean, its lemmas Lemmas/Output.lean, the tables are Gen/Bindings.lean and
  Gen/OutputShapes.lean)

  State of /repo this file is written for: the CLI-side defects are repaired (6463ac6 replace --output json applies,
  363d4c7 + cc8b751 error document, bfb97ea prompt on stderr, 9b4e272, 7e5290d, 29e3f64, 56d4ab2); what remains is on the
  consumer side: cliService.history / cliService.status declare types the CLI does not emit (findings
  history_shape_mismatch, status_shape_mismatch; proposal seeded/_fixes/c19_vscode_history_status_shapes.diff).  The one guard
  left, `shapeMismatch`, and the two theorems about those commands are stated over flags that translate/bindings.py reads
  from the TypeScript sources, so this file checks unchanged before and after that proposal lands.

  The table `Output.rows` is: every command × {--output json, summary} × --quiet × --dry-run (where accepted) × -y
  (rename, replace) × a --preview value given or not × --no-regex and --commit (replace) × {something found, nothing
  found} × {no failure, failure at each fallible site of the handler}; the conformance statements range over
  command × {matches, none} × {renames, none} (`docScenarios`).

  How the statements are closed.  Running a handler (`outcome`) is what costs; `row_sweep` does it once per option
  combination (`Output.rows_of_sweep`) and judges every row by the conjunction `rowFacts` of the four clauses that need
  the row's outcome.  The theorems about rows are read off `rowFacts_iff`.  `--quiet` / `--preview` being ignored under
  `--output json` is not a fact about single rows: it holds of every `--output json` command line, in the table or
  not, because no handler consults those options outside a `json = false` branch (`Output.outcome_eq_of_blind`).
-/
namespace C19
open Output

/-- (command) whose emitted document is not a member of the type the VS Code wrapper declares: `history` unless
    cliService.history unwraps `entries`, `status` unless the wrapper's `Status` is the real StatusResult — both flags are
    read from the TypeScript sources by translate/bindings.py, false at HEAD, true once c19_vscode_history_status_shapes.diff
    has landed -/
def shapeMismatch (cmd : Cmd) : Bool :=
  (cmd == .history && !Gen.vscodeHistoryUnwrapsEntries) || (cmd == .status && !Gen.vscodeStatusDeclaresPendingPlan)

/-- The property at full strength (false today because of `history` and `status`, see the two theorems about them): in
    every `--output json` row there is exactly one stdout emission and it is a JSON document of known shape; when nothing
    failed it is a member of every type a wrapper declares for the command (in every scenario compatible with the row),
    when something failed it is the error document; and the status is 0 exactly when the requested operation was performed. -/
def C19_full : Prop :=
  (jsonRows.all fun r => (docScenarios r.cmd).all fun s => ((s.1 && s.2) != r.planEmpty) ||
    check r (fun o => oneDocument o && (o.failed || conformsCmd r.cmd s.1 s.2) && (o.exitZero == succeeded r o))) = true

/-- the status is 0 exactly when nothing failed and the requested operations were performed -/
def statusClause (r : Row) (o : Outcome) : Bool := o.exitZero == succeeded r o

/-- `replace -y` with something to do applies, succeeds and prints what its format asks for -/
def replaceClause (r : Row) (o : Outcome) : Bool :=
  !(r.cmd == .replace && r.yes && !r.dryRun && !r.planEmpty && !o.failed) ||
    (o.performed.contains n!"apply_plan" && succeeded r o
      && (!r.json || o.stdout == [.jsonOf n!"RenameResult"]) && (r.json || !r.quiet || o.stdout == []))

/-- exactly one document, the command's own `doc` when nothing fails (for `replace` as a preview: the bare plan) -/
def documentClause (doc : Option Payload) (r : Row) (o : Outcome) : Bool :=
  oneDocument o && (o.failed || o.stdout.head? == doc
    || (r.cmd == .replace && (r.dryRun || !r.yes) && o.stdout.head? == some (.pretty n!"Plan")))

/-- a failure prints exactly the error document, a message on stderr, and a status that is not 0 -/
def errorClause (o : Outcome) : Bool :=
  !o.failed || (o.stdout == [errorDoc] && oneDocument o && decide (o.stderrSites ≥ 1) && !o.exitZero)

/-- every clause of this file about a row `r` of the table and its outcome `o`; `doc` is the document of the row's command -/
def rowFacts (doc : Option Payload) (r : Row) (o : Outcome) : Bool :=
  statusClause r o && replaceClause r o && (!r.json || (documentClause doc r o && errorClause o))

theorem rowFacts_iff {doc : Option Payload} {r : Row} {o : Outcome} :
    rowFacts doc r o = true ↔ statusClause r o = true ∧ replaceClause r o = true ∧
      (r.json = true → documentClause doc r o = true ∧ errorClause o = true) := by
  cases hj : r.json <;> simp [rowFacts, hj, and_assoc]

theorem row_sweep : (Cmd.all.all fun c => match eventsOf c with
    | none => false
    | some (d, evs) => (combos c).all fun r =>
        let s := runSites (atomVal r d) evs ⟨[], 0, [], none⟩
        (failSites c).all fun f => rowFacts (emittedDoc c) { r with failAt := f } (finish r.json (traceAt s f))) = true := by
  decide +kernel

theorem row_facts {r : Row} (hr : r ∈ rows) : ∃ o, outcome r = some o ∧ rowFacts (emittedDoc r.cmd) r o = true :=
  rows_of_sweep (F := fun c => rowFacts (emittedDoc c)) row_sweep hr

theorem rows_check {F : Row → Outcome → Bool} (h : ∀ r o, rowFacts (emittedDoc r.cmd) r o = true → F r o = true) :
    (rows.all fun r => check r (F r)) = true :=
  List.all_eq_true.mpr fun r hr =>
    have ⟨o, ho, hf⟩ := row_facts hr
    check_eq_true.mpr ⟨o, ho, h r o hf⟩

theorem jsonRows_check {F : Row → Outcome → Bool}
    (h : ∀ r o, r.json = true → rowFacts (emittedDoc r.cmd) r o = true → F r o = true) :
    (jsonRows.all fun r => check r (F r)) = true :=
  List.all_eq_true.mpr fun r hr =>
    have ⟨hr, hj⟩ := mem_jsonRows.mp hr
    have ⟨o, ho, hf⟩ := row_facts hr
    check_eq_true.mpr ⟨o, ho, h r o hj hf⟩

/-- Every `--output json` row writes exactly one stdout emission and it is a JSON document whose shape is known; when
    nothing fails it is the command's document `emittedDoc` whatever the options and the scenario are (for `replace`
    without `-y` or with `--dry-run` it is the bare plan: a preview). -/
theorem one_document :
    (jsonRows.all fun r => check r fun o =>
      oneDocument o && (o.failed || o.stdout.head? == emittedDoc r.cmd
        || (r.cmd == .replace && (r.dryRun || !r.yes) && o.stdout.head? == some (.pretty n!"Plan")))) = true :=
  jsonRows_check fun _ _ hj h => ((rowFacts_iff.mp h).2.2 hj).1

/-- Nothing but JSON is ever written to stdout in a `--output json` row (no preview, summary, prompt or message). -/
theorem only_json_on_stdout :
    (jsonRows.all fun r => check r fun o => o.stdout.all Payload.isJson) = true :=
  List.all_eq_true.mpr fun r hr =>
    have ⟨o, ho, hf⟩ := check_eq_true.mp (List.all_eq_true.mp one_document r hr)
    check_eq_true.mpr ⟨o, ho, oneDocument_all_isJson (Bool.and_eq_true _ _ ▸ hf).1⟩

/-- (repaired finding error_path_no_document) Every `--output json` row in which a fallible site of the handler
    fails writes exactly the error document `{"success":false,"error":…}` to stdout, the message to stderr, and has a
    status that is not 0.  Every command except `version` has such rows. -/
theorem error_rows_print_the_error_document :
    (jsonRows.all fun r => check r fun o =>
      !o.failed || (o.stdout == [errorDoc] && oneDocument o && decide (o.stderrSites ≥ 1) && !o.exitZero)) = true
    ∧ ((Cmd.all.filter (· != .version)).all fun c => jsonRows.any fun r => r.cmd == c && check r (·.failed)) = true :=
  ⟨jsonRows_check fun _ _ hj h => ((rowFacts_iff.mp h).2.2 hj).2,
   List.all_eq_true.mpr fun c hc => by
     have h : ((Cmd.all.filter (· != .version)).all fun c => (combos c).any fun r => (failSites c).any fun f =>
         r.json && check { r with failAt := f } (·.failed)) = true := by decide +kernel
     simpa [jsonRows, List.any_filter, Bool.and_left_comm] using
       rows_any (p := fun r => r.json && check r (·.failed)) (List.all_eq_true.mp h c hc)⟩

/-- the recorded instance: `renamify undo nosuch --output json` -/
theorem error_document_undo :
    outcome { cmd := .undo, json := true, quiet := false, dryRun := false, yes := false, preview := false, noRegex := false,
              commit := false, planEmpty := false, failAt := some 0 }
      = some { stdout := [errorDoc], stderrSites := 1, exitZero := false, performed := [], failed := true } := by decide +kernel

/-- no handler consults `--quiet` (or `previewSome`, whose value depends on it) outside a `json = false` branch -/
theorem quiet_blind : allHandlers (fun _ evs => evs.all fun e => blind [.quiet, .previewSome] e.guard) = true := by
  decide +kernel

/-- … nor `--preview`, unless the dispatch binds the preview to `None` under `--output json` anyway -/
theorem preview_blind :
    allHandlers (fun d evs => evs.all fun e => blind (if d.2.2.2 then [] else [.previewSome, .previewWithJson]) e.guard) = true := by
  decide +kernel

/-- The `--preview` option and `--quiet` have no influence on a `--output json` row. -/
theorem preview_ignored_under_json :
    (jsonRows.all fun r => outcome r == outcome { r with preview := !r.preview }) = true :=
  List.all_eq_true.mpr fun r hr => beq_iff_eq.mpr <| Eq.symm <|
    outcome_eq_of_blind (fun d => if d.2.2.2 then [] else [.previewSome, .previewWithJson]) rfl rfl
      (mem_jsonRows.mp hr).2 (mem_jsonRows.mp hr).2
      (fun d a => by cases a <;> cases h : d.2.2.2 <;> simp [atomVal, h, (mem_jsonRows.mp hr).2])
      preview_blind

theorem quiet_ignored_under_json :
    (jsonRows.all fun r => outcome r == outcome { r with quiet := !r.quiet }) = true :=
  List.all_eq_true.mpr fun r hr => beq_iff_eq.mpr <| Eq.symm <|
    outcome_eq_of_blind (fun _ => [.quiet, .previewSome]) rfl rfl (mem_jsonRows.mp hr).2 (mem_jsonRows.mp hr).2
      (fun d a => by cases a <;> simp [atomVal])
      quiet_blind

/-- The document of every command not in `shapeMismatch` is a member of every type a wrapper declares for it, in every
    scenario (in which every path is valid UTF-8; the planner refuses the others). -/
theorem conforms_bindings_partial :
    (Cmd.all.all fun c => (docScenarios c).all fun s => shapeMismatch c || conformsCmd c s.1 s.2) = true := by decide +kernel

example : (Cmd.all.filter fun c => !(expectedTypes c).isEmpty && !shapeMismatch c).length ≥ 6 := by decide +kernel

/-- (repaired findings replace_json_not_applied / replace_json_quiet_no_document, document side) `replace --output json`
    prints the result wrapper of `rename` when it applies (`-y`), and the bare plan — a `Plan` of the bindings — as a
    preview with `--dry-run` or without `-y`. -/
theorem replace_documents :
    emittedDoc .replace = some (.jsonOf n!"RenameResult")
    ∧ check { plainRow .replace with dryRun := true } (fun o => o.stdout == [.pretty n!"Plan"]) = true
    ∧ check { plainRow .replace with yes := false } (fun o => o.stdout == [.pretty n!"Plan"]) = true
    ∧ conformsGen { replaceEmpty := false, noMatches := false, noRenames := false } (.ref n!"Plan") (.ref n!"Plan") = true := by
  decide +kernel

/-- (repaired by 7e5290d + regenerated bindings) With an empty replacement `MatchHunk.replace` and `Rename.new_path` are
    skipped by serde, and the bindings declare them optional, so the plan printed by `search` is a `Plan`. -/
theorem search_mode_members_optional :
    pres3 { replaceEmpty := true, noMatches := false, noRenames := false } n!"replace" .ifNonEmpty = .absent
    ∧ conformsGen { replaceEmpty := true, noMatches := false, noRenames := true } (.ref n!"MatchHunk") (.ref n!"MatchHunk") = true
    ∧ conformsGen { replaceEmpty := true, noMatches := true, noRenames := false } (.ref n!"Rename") (.ref n!"Rename") = true
    ∧ replaceEmptyOf .search = true
    ∧ ((docScenarios .search).all fun s => conformsCmd .search s.1 s.2) = true := by decide +kernel

/-- (about `format_json` in isolation; repaired by 56d4ab2) the `plan` member is `null` only when the plan cannot be
    serialised, which no command reaches any more. -/
theorem plan_member_null_only_if_unserialisable :
    conformsCmdIn .search { docCtxOf .search false false with serFails := true } = false
    ∧ conformsCmdIn .plan { docCtxOf .plan false false with serFails := true } = false
    ∧ conformsCmdIn .rename { docCtxOf .rename false false with serFails := true } = true
    ∧ conformsGen { replaceEmpty := false, noMatches := false, noRenames := false, serFails := true }
        (.ref n!"Plan") (.fallible (.ref n!"Plan")) = false
    ∧ conformsGen { replaceEmpty := false, noMatches := false, noRenames := false }
        (.ref n!"Plan") (.fallible (.ref n!"Plan")) = true := by decide +kernel

/-- history_shape_mismatch, as a statement that is true in both worlds: `history --output json` prints
    `{"entries":[HistoryItem…]}`, and that is a member of what cliService.history declares exactly when the wrapper unwraps
    `entries` (at HEAD it returns the whole document as `HistoryEntry[]`: an object is not an array, and a `HistoryItem`
    is not a `HistoryEntry` even inside the wrapper). -/
theorem history_conforms_iff_wrapper_unwraps_entries :
    conformsCmd .history false false = Gen.vscodeHistoryUnwrapsEntries
    ∧ (expectedTypes .history).map (·.1) = [n!"vscode.history"]
    ∧ conformsGen { replaceEmpty := false, noMatches := false, noRenames := false }
        (.arr (.ref n!"HistoryEntry")) (.arr (.ref n!"HistoryItem")) = false
    ∧ conformsGen { replaceEmpty := false, noMatches := false, noRenames := false }
        (.obj [(n!"entries", false, .arr (.ref n!"HistoryEntry"))]) (.obj [(n!"entries", .always, .arr (.ref n!"HistoryItem"))]) = false := by
  decide +kernel

/-- status_shape_mismatch, likewise: `status --output json` prints `{pending_plan, history_count, last_operation: string|null}`,
    a member of the wrapper's `Status` exactly when that type is the real StatusResult (at HEAD it is
    `{ current_plan?: Plan, last_operation?: HistoryEntry }`, and neither a string nor null is a HistoryEntry). -/
theorem status_conforms_iff_wrapper_declares_status_result :
    conformsCmd .status false false = Gen.vscodeStatusDeclaresPendingPlan
    ∧ (expectedTypes .status).map (·.1) = [n!"vscode.status"]
    ∧ conformsGen { replaceEmpty := false, noMatches := false, noRenames := false } (.ref n!"HistoryEntry") .str = false
    ∧ conformsGen { replaceEmpty := false, noMatches := false, noRenames := false } (.ref n!"HistoryEntry") .null = false := by
  decide +kernel

/-- main's mapping: Ok ↦ 0 (a non-zero code, nothing on stdout, when the interrupted flag is set: signals are outside the
    table); a command that returned Err reports one of the non-zero codes of the Err arm, the message on stderr and —
    through `emit_json_error` — the error document `{success, error}` on stdout under `--output json`; so do clap's
    rejection of the argv and every exit before the dispatch (but the signal handler's 130); none of those exits is 0;
    the init helpers never write to stdout. -/
theorem exit_code_discipline :
    Gen.exitOk = 0 ∧ Gen.exitOkInterrupted.all (· != 0) = true ∧ Gen.okArmStdoutSites = 0
    ∧ errCodes.all (· != 0) = true ∧ Gen.errArmStdoutSites = 0 ∧ Gen.errArmStderrSites ≥ 1
    ∧ Gen.errArmJsonDoc = true ∧ Gen.clapErrorJsonDoc = true
    ∧ (match docShape errorDoc with
       | some (.obj fs) => fs.map (·.1) == [n!"success", n!"error"]
       | _ => false) = true
    ∧ Gen.preDispatchExits.all (fun e => e.2.1 != n!"0") = true
    ∧ Gen.preDispatchExits.all (fun e => e.2.1 == n!"130" || e.2.2.2) = true
    ∧ Gen.initHelperStdoutSites.all (fun e => e.2 == 0) = true := by decide +kernel

/-- The status is 0 exactly when nothing failed and the requested operations were performed — in every row. -/
theorem status_zero_iff_success :
    (rows.all fun r => check r fun o => o.exitZero == succeeded r o) = true :=
  rows_check fun _ _ h => (rowFacts_iff.mp h).1

/-- (repaired findings replace_json_not_applied / replace_quiet_not_applied) `replace -y` without `--dry-run` and
    with something to do calls `apply_plan` and succeeds in every format; under `--output json` it prints the result
    document (also with `--quiet`), in the summary format `--quiet` prints nothing. -/
theorem replace_applies :
    (rows.all fun r => check r fun o =>
      !(r.cmd == .replace && r.yes && !r.dryRun && !r.planEmpty && !o.failed) ||
        (o.performed.contains n!"apply_plan" && succeeded r o
          && (!r.json || o.stdout == [.jsonOf n!"RenameResult"]) && (r.json || !r.quiet || o.stdout == []))) = true
    ∧ (rows.any fun r => r.cmd == .replace && r.json && r.quiet && r.yes && !r.dryRun && !r.planEmpty
          && check r (fun o => !o.failed)) = true :=
  ⟨rows_check fun _ _ h => (rowFacts_iff.mp h).2.1,
   by simpa [Bool.and_assoc] using rows_any (c := .replace)
        (p := fun r => r.json && r.quiet && r.yes && !r.dryRun && !r.planEmpty && check r (fun o => !o.failed))
        (by decide +kernel)⟩

/-- The property for every row, except that the document of a command in `shapeMismatch` need not be a member of the
    declared type. -/
theorem C19_partial :
    (jsonRows.all fun r => (docScenarios r.cmd).all fun s => ((s.1 && s.2) != r.planEmpty) ||
      check r (fun o => oneDocument o && (o.failed || shapeMismatch r.cmd || conformsCmd r.cmd s.1 s.2)
                        && (o.exitZero == succeeded r o))) = true :=
  List.all_eq_true.mpr fun r hr => List.all_eq_true.mpr fun s hs => by
    have ⟨o, ho, h1⟩ := check_eq_true.mp (List.all_eq_true.mp one_document r hr)
    have ⟨_, ho', h2⟩ := check_eq_true.mp (List.all_eq_true.mp status_zero_iff_success r (mem_jsonRows.mp hr).1)
    cases ho.symm.trans ho'
    have h3 := List.all_eq_true.mp (List.all_eq_true.mp conforms_bindings_partial r.cmd (mem_cmd_all _)) s hs
    rw [Bool.or_eq_true]
    exact .inr (check_eq_true.mpr ⟨o, ho, by simp [(Bool.and_eq_true _ _ ▸ h1).1, h2, Bool.or_assoc, h3]⟩)

/-- Nothing else can reach our stdout: every child process of the non-test core and CLI sources is run with `.output()`
    (captured) or has its stdout redirected — a `.status()` / `.spawn()` child would write its own messages in front of
    the document, as `git commit` did under `replace --commit` until 684ddcb; and every call of the error-document emitter
    in main.rs is directly followed by the exit of the process (one that returns lets a caller report the failure again:
    two documents). -/
theorem no_child_inherits_stdout :
    (Gen.childProcessSites.all fun c => c.2.2.2.1 == n!"output" || c.2.2.2.2) = true
    ∧ Gen.unpairedErrorDocCalls = [] := by decide +kernel

/-- Every stdout emission site of the core library outside `RENAMIFY_DEBUG_*` guards is one of the known ones, and the
    confirmation prompt of `rename_operation` is not among them any more (it goes to stderr). -/
theorem core_sites_as_modelled :
    (Gen.coreStdoutSites.all fun s => knownCoreSites.contains s) = true
    ∧ (Gen.coreStdoutSites.any fun s => s.2.1 == n!"get_user_confirmation") = false := by decide +kernel

/-- Every command has a handler with an event list, and emits a document of a known shape. -/
theorem table_is_total :
    (rows.all fun r => (outcome r).isSome) = true
    ∧ (Cmd.all.all fun c => match emittedDoc c with | some p => (docShape p).isSome | none => false) = true :=
  ⟨List.all_eq_true.mpr fun r hr =>
      have ⟨_, ho, _⟩ := row_facts hr
      ho ▸ rfl,
   by decide +kernel⟩

namespace Part

theorem one_document :
    (jsonRows.all fun r => check r fun o =>
      oneDocument o && (o.failed || o.stdout.head? == emittedDoc r.cmd
        || (r.cmd == .replace && (r.dryRun || !r.yes) && o.stdout.head? == some (.pretty n!"Plan")))) = true :=
  C19.one_document

theorem status_zero_iff_success :
    (rows.all fun r => check r fun o => o.exitZero == succeeded r o) = true := C19.status_zero_iff_success

end Part

end C19
