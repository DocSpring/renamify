import RModel.Base.Lit
import RModel.Model.CaseModel
import RModel.Model.RenamePlan
import RModel.Gen.Acronyms
import RModel.Gen.RenameTables
import RModel.Lemmas.RenamePlan
import RModel.Lemmas.CoerceSafe
import RModel.Props.C02ren
/-
  C08 — Path renames are complete, conflict-free and composable.   Lemmas are in `Lemmas/RenamePlan.lean`, the planner
  model in `Model/RenamePlan.lean`, execution in `Props/C02ren.lean`.

  The general theorems hold for every entry list / tree, variant map and option set (no size bound), and for both shapes
  of `determine_filename_replacement` (`Tables.allVariants`, generated from the source: `Gen.renameAllVariantsInName`).
  `C08_full` is false today (`C08_full_false`); the two `C08_witness_*` theorems are the kernel-evaluated
  counterexamples, each replayed on the real binary by `checks/c08.py` (corpus/C08);
  `overlapping_roots_before_and_after_fix`, `symlink_to_root_before_and_after_fix` record the defects repaired by
  4d2e5a7 / ed3f0d7 on the old-style functions; `flags_respected`, `root_filter_exact` are the positive statements
  after 4ad17ef / ed3f0d7.
  File-name coercion (`applyCoercion`) enters the general theorems through `CoerceSafe` (its result is a usable file
  name), which is a theorem about the model (`coerceSafe_of_goodVals`, lemmas in `Lemmas/CoerceSafe.lean`): the planner
  theorems assume nothing about coercion.
-/
namespace C08
open B Fs Apply RenamePlan RenamePlanL

/-- the tables of the current source -/
def T0 : Tables :=
  { exts := Gen.coercionExtensions, extMax := Gen.coercionExtMaxLen, reserved := Gen.windowsReserved,
    isAcr := (CaseModel.acrOf Gen.defaultAcronyms).isAcr, allVariants := Gen.renameAllVariantsInName,
    crossRootCheck := Gen.crossRootConflictCheck }

/-- a replacement text is usable inside a file name: no `/`, at least one alphanumeric -/
def GoodVal (v : Bytes) : Prop := (47 : UInt8) ∉ v ∧ v.any isAlnum = true

/-- keys are non-empty; every replacement text (plain or resolver-chosen) is usable -/
def GoodVals (vmap : List VEntry) : Prop :=
  ∀ v ∈ vmap, v.key ≠ [] ∧ GoodVal v.val ∧ (∀ a, v.amb = some a → GoodVal a)

/-- file-name coercion returns usable file names: for a name without `/`, whatever it returns is non-empty, slash-free
    and not `.`.  Not a hypothesis of the planner theorems: it holds of the model of `coercion.rs::apply_coercion`
    (`coerceSafe_of_goodVals`). -/
def CoerceSafe (T : Tables) (vmap : List VEntry) : Prop :=
  ∀ (name : Bytes) (v : VEntry) (n : Bytes), (47 : UInt8) ∉ name → v ∈ vmap →
    applyCoercion T name v.key v.val = some n → SafeName n

/-- COERCION IS SAFE, for every table of extensions / acronyms, every variant map with usable values and every name
    (route: head of `Lemmas/CoerceSafe.lean`). -/
theorem coerceSafe_of_goodVals (T : Tables) (vmap : List VEntry) (hv : GoodVals vmap) : CoerceSafe T vmap := by
  intro name v n hs hmem h
  obtain ⟨hk, hval, _⟩ := hv v hmem
  exact CoerceSafeL.applyCoercion_safe T hs hk hval.2 h

/-- path components contain no `/` -/
def SlashFree (es : List Entry) : Prop := ∀ e ∈ es, ∀ c ∈ e.1, (47 : UInt8) ∉ c

instance (v : Bytes) : Decidable (GoodVal v) := by unfold GoodVal; infer_instance
instance (vmap : List VEntry) : Decidable (GoodVals vmap) := by unfold GoodVals; infer_instance
instance (es : List Entry) : Decidable (SlashFree es) := by unfold SlashFree; infer_instance

/-- the entry is of a kind the flags allow (since 4ad17ef a symlink counts as a file) -/
def KindEnabled (o : Opts) (e : Entry) : Prop :=
  ¬ (e.2 = .dir ∧ o.renameDirs = false) ∧ ¬ (e.2 ≠ .dir ∧ o.renameFiles = false)

/-- a key is looked up by containment, in map order -/
theorem contains_key_iff (vmap : List VEntry) (name : Bytes) :
    (firstKey vmap name).isSome = true ↔ ∃ v ∈ vmap, containsSub name v.key = true := by
  unfold firstKey
  rw [List.find?_isSome]

/-- no contained key, no rename; a contained key gives a new name unless (with search/replace) it equals the old one -/
theorem newName_none_of_no_key (T : Tables) (o : Opts) (vmap : List VEntry) (name : Bytes)
    (h : ∀ v ∈ vmap, containsSub name v.key = false) : newNameFor T o vmap name = none := by
  have : firstKey vmap name = none := List.find?_eq_none.2 fun v hv => by simp [h v hv]
  rw [newNameFor, this]

theorem newName_some_or_same (T : Tables) (o : Opts) (vmap : List VEntry) (name : Bytes)
    (h : ∃ v ∈ vmap, containsSub name v.key = true) :
    (∃ n, newNameFor T o vmap name = some n) ∨ (o.withSearch = true ∧ newNameFor T o vmap name = none) := by
  obtain ⟨v, hv⟩ := Option.isSome_iff_exists.1 ((contains_key_iff vmap name).2 h)
  cases hres : newNameFor T o vmap name with
  | some n => exact Or.inl ⟨n, rfl⟩
  | none =>
    refine Or.inr ⟨?_, rfl⟩
    cases hw : o.withSearch with
    | true => rfl
    | false => simp [newNameFor, hv, hw] at hres

/-- ONE RENAME PER NAME.  Entries with pairwise distinct paths: an entry of an enabled kind whose own name yields
    a new name is scheduled exactly once, with `with_file_name(new name)`; any other entry is not scheduled. -/
theorem one_rename_per_name (T : Tables) (o : Opts) (vmap : List VEntry) (es : List Entry)
    (hd : es.Pairwise (fun a b => a.1 ≠ b.1)) (e : Entry) (he : e ∈ es) :
    (∀ name n, KindEnabled o e → e.1.getLast? = some name → newNameFor T o vmap name = some n →
      ∃ r ∈ collect T o vmap es, r.path = e.1 ∧ r.newPath = withFileName e.1 n ∧ r.kind = kindOf e.2 ∧
        ∀ r' ∈ collect T o vmap es, r'.path = e.1 → r' = r) ∧
    ((¬ KindEnabled o e ∨ ∀ name, e.1.getLast? = some name → newNameFor T o vmap name = none) →
      ∀ r ∈ collect T o vmap es, r.path ≠ e.1) := by
  -- a collected rename with the path of `e` is what `e` itself yields
  have uniq : ∀ r ∈ collect T o vmap es, r.path = e.1 → planEntry T o vmap e = some r := by
    intro r hr hp
    obtain ⟨e', he', hp'⟩ := mem_collect.1 hr
    rwa [← RenamePhase.pairwise_fst_inj hd he' he ((planEntry_path hp').symm.trans hp)]
  constructor
  · intro name n hk hname hn
    have hp := planEntry_eq_some.2 ⟨hk, name, n, hname, hn, rfl⟩
    exact ⟨_, mem_collect.2 ⟨e, he, hp⟩, rfl, rfl, rfl,
      fun r' hr' hp' => Option.some.inj ((uniq r' hr' hp').symm.trans hp)⟩
  · intro h r hr hp
    obtain ⟨hk, name, n, hname, hn, _⟩ := planEntry_eq_some.1 (uniq r hr hp)
    rcases h with h | h
    · exact h hk
    · rw [h name hname] at hn; cases hn

/-- what `newNameFor` returns is a usable file name — needs: keys non-empty, replacement texts without `/` and with
    an alphanumeric, the old name without `/`.  Each way the name is made (`str::replace`, the all-variants loop,
    coercion) is the same scan with a usable replacement text. -/
theorem newName_safe (T : Tables) (o : Opts) (vmap : List VEntry) (hv : GoodVals vmap)
    (name n : Bytes) (hs : (47 : UInt8) ∉ name)
    (h : newNameFor T o vmap name = some n) : SafeName n := by
  obtain ⟨v, hf, rfl⟩ := newNameFor_some h
  obtain ⟨hmem, hcon⟩ := firstKey_some hf
  obtain ⟨hk, hval, _⟩ := hv v hmem
  have goodRepl : ∀ w ∈ vmap, GoodVal (replOf w) := by
    intro w hw
    obtain ⟨_, hwv, hwa⟩ := hv w hw
    cases ha : w.amb with
    | none => rw [replOf, ha]; exact hwv
    | some a => rw [replOf, ha]; exact hwa a ha
  rcases candidate_cases T o vmap v name with hc | ⟨_, hc⟩
  · rw [hc]
    apply safeName_of_usable
    unfold plainName
    split
    · split
      · exact rewriteAll_usable hmem hk hs goodRepl hcon
      · exact replaceAll_usable hk hs (goodRepl v hmem) hcon
    · exact replaceAll_usable hk hs hval hcon
  · exact coerceSafe_of_goodVals T vmap hv name v _ hs hmem hc

/-- ONLY THE LAST COMPONENT.  Every collected rename satisfies `C02ren.LastOnly`:
    `new_path = path.parent ++ [new name]`, new name non-empty. -/
theorem only_last_component (T : Tables) (o : Opts) (vmap : List VEntry) (es : List Entry)
    (hv : GoodVals vmap) (hs : SlashFree es) :
    C02ren.LastOnly (collect T o vmap es) := by
  rw [C02ren.lastOnly_iff]
  intro r hr
  obtain ⟨e, he, hp⟩ := mem_collect.1 hr
  obtain ⟨_, name, n, hname, hn, rfl⟩ := planEntry_eq_some.1 hp
  have hsafe := newName_safe T o vmap hv name n (hs e he name (List.mem_of_getLast? hname)) hn
  exact ⟨fun h0 => (by rw [show e.1 = [] from h0] at hname; cases hname), n, hsafe.1, withFileName_safe _ hsafe⟩

/-- DISTINCT SOURCES from distinct walker entries -/
theorem sources_distinct (T : Tables) (o : Opts) (vmap : List VEntry) (es : List Entry)
    (hd : es.Pairwise (fun a b => a.1 ≠ b.1)) : C02ren.DistinctSources (collect T o vmap es) :=
  collect_distinct hd

/-- DISTINCT DESTINATIONS.  A plan that `plan_renames_with_search` accepts has no Windows-reserved target and
    pairwise distinct destinations; with `LastOnly` this is `C02ren.SiblingDestsDistinct`. -/
theorem destinations_distinct (T : Tables) (o : Opts) (vmap : List VEntry) (es : List Entry) (rs : List Ren)
    (h : planWithSearch T o vmap es = .ok rs) :
    (∀ r ∈ rs, reservedRen T r = false) ∧
    (∀ r ∈ rs, ∀ r' ∈ rs, r.newPath = r'.newPath → r = r') :=
  no_conflicts (accepted_perm h).2

theorem siblingDests_of_distinct {rs : List Ren} (hlo : C02ren.LastOnly rs)
    (hdd : ∀ r ∈ rs, ∀ r' ∈ rs, r.newPath = r'.newPath → r = r') : C02ren.SiblingDestsDistinct rs := by
  intro r hr r' hr' hne hpar hlast
  obtain ⟨_, c, _, hn⟩ := (C02ren.lastOnly_iff rs).1 hlo r hr
  obtain ⟨_, c', _, hn'⟩ := (C02ren.lastOnly_iff rs).1 hlo r' hr'
  rw [hn, hn', List.getLast?_concat, List.getLast?_concat] at hlast
  have : r'.newPath = r.newPath := by rw [hn, hn', hpar, Option.some.inj hlast]
  exact hne (by rw [hdd r' hr' r hr this])

/-- … and conversely: two collected renames (neither the working directory) with one destination make
    `plan_renames_with_search` refuse the whole plan -/
theorem shared_destination_refused (T : Tables) (o : Opts) (vmap : List VEntry) (es : List Entry)
    (r r' : Ren) (hr : r ∈ collect T o vmap es) (hr' : r' ∈ collect T o vmap es)
    (hcwd : o.renameRoot = true ∨ (r.path ≠ o.cwd ∧ r'.path ≠ o.cwd))
    (hne : r.path ≠ r'.path) (hsame : r.newPath = r'.newPath) :
    ∃ n, planWithSearch T o vmap es = .error n := by
  cases hres : planWithSearch T o vmap es with
  | error n => exact ⟨n, rfl⟩
  | ok rs =>
    have h1 := (mem_accepted hres r).2 ⟨hr, hcwd.imp id (·.1)⟩
    have h2 := (mem_accepted hres r').2 ⟨hr', hcwd.imp id (·.2)⟩
    exact absurd (congrArg Ren.path ((destinations_distinct T o vmap es rs hres).2 r h1 r' h2 hsame)) hne

theorem slashFree_entriesOf (t : Tree) (root : Path) (h : ∀ e ∈ t, ∀ c ∈ e.1, (47 : UInt8) ∉ c) :
    SlashFree (entriesOf t root) := by
  intro e he
  obtain ⟨x, hx, _, _, rfl⟩ := mem_entriesOf.1 he
  exact h x hx

/-- no search root has a component `.git` (such a root is not walked by an enclosing root) -/
def NoGitRoots (roots : List Path) : Prop := ∀ root ∈ roots, root.contains [46, 103, 105, 116] = false

instance (roots : List Path) : Decidable (NoGitRoots roots) := by unfold NoGitRoots; infer_instance

/-- DISTINCT SOURCES FOR ANY ROOT LIST (since 4d2e5a7, `dedup_renames`): whatever the search roots — nested,
    repeated, overlapping — no node is scheduled twice … -/
theorem sources_distinct_any_roots (T : Tables) (o : Opts) (vmap : List VEntry) (t : Tree) (roots : List Path)
    (b : Bool) (rs : List Ren) (hacc : planRenames T o vmap t roots b = .ok rs) : C02ren.DistinctSources rs :=
  (planRenames_mem hacc).1

/-- … and no node that a root's accepted plan schedules is lost by the de-duplication -/
theorem dedup_keeps_every_node (T : Tables) (o : Opts) (vmap : List VEntry) (ess : List (List Entry))
    (raw rs : List Ren) (hraw : planLoop T o vmap ess = .ok raw) (h : planMulti T o vmap ess = .ok rs) :
    List.Sublist rs raw ∧ ∀ r ∈ raw, ∃ r' ∈ rs, r'.path = r.path := by
  obtain ⟨raw', hraw', rfl, _⟩ := planMulti_ok h
  cases hraw.symm.trans hraw'
  exact ⟨dedupRens_sublist raw, dedupRens_cover raw⟩

/-- DISTINCT DESTINATIONS FOR ANY ROOT LIST, at the level of the scan (what `renamify plan` stores; no root filter).
    Since 0109402 (`T.crossRootCheck`) the merged list of all roots is checked once more, so an accepted multi-root
    plan has pairwise distinct destinations even when the colliding sources lie under different roots — two files
    given as search paths, two sibling directories: `r.newPath = r'.newPath → r.path = r'.path`. -/
theorem destinations_distinct_any_roots (T : Tables) (o : Opts) (vmap : List VEntry) (ess : List (List Entry))
    (rs : List Ren) (hc : T.crossRootCheck = true) (h : planMulti T o vmap ess = .ok rs) :
    C02ren.DistinctSources rs ∧
    ∀ r ∈ rs, ∀ r' ∈ rs, r.newPath ≠ [] → r.newPath = r'.newPath → r.path = r'.path := by
  obtain ⟨raw, _, rfl, hsd⟩ := planMulti_ok h
  exact ⟨dedupRens_distinct raw, sharedDest_false (hsd hc)⟩

/-- … and conversely two renames of different nodes with one destination refuse the scan -/
theorem cross_root_shared_destination_refused (T : Tables) (o : Opts) (vmap : List VEntry)
    (ess : List (List Entry)) (raw : List Ren) (hc : T.crossRootCheck = true)
    (hraw : planLoop T o vmap ess = .ok raw) (hs : sharedDest (dedupRens raw) = true) :
    planMulti T o vmap ess = .error 1 := by
  unfold planMulti
  rw [hraw]
  simp [hc, hs]

/-- UNION OVER ALL ROOTS.  The rename list of an accepted scan is the de-duplicated union of the per-root plans of
    EVERY search root, each planned with the entries its own walk yields (`Gen.everyRootPlanned`: the code's loop is
    `for root in roots`, unfiltered): whatever one root's accepted plan schedules is scheduled — also when the root
    lies inside another root whose walk does not reach it (ignored directory, include/exclude globs) — and nothing
    is scheduled that no root's plan contains. -/
theorem every_root_contributes (T : Tables) (o : Opts) (vmap : List VEntry) (ess : List (List Entry)) (rs : List Ren)
    (hfl : (o.renameFiles || o.renameDirs) = true) (h : planMulti T o vmap ess = .ok rs) :
    (∀ es ∈ ess, ∃ rs0, planWithSearch T o vmap es = .ok rs0 ∧ ∀ r ∈ rs0, ∃ r' ∈ rs, r'.path = r.path) ∧
    (∀ r ∈ rs, ∃ es ∈ ess, ∃ rs0, planWithSearch T o vmap es = .ok rs0 ∧ r ∈ rs0) := by
  obtain ⟨raw, hraw, rfl, _⟩ := planMulti_ok h
  obtain ⟨hfrom, hall⟩ := planLoop_ok hraw
  constructor
  · intro es hes
    obtain ⟨rs0, h0, hsub⟩ := hall hfl es hes
    exact ⟨rs0, h0, fun r hr => dedupRens_cover raw r (hsub r hr)⟩
  · exact fun r hr => hfrom r ((dedupRens_sublist raw).subset hr)

/-- the guards of `C02ren.renamePhase_ok` hold for every plan the planner accepts, for any list of search roots -/
theorem accepted_guards (T : Tables) (o : Opts) (vmap : List VEntry) (t : Tree) (roots : List Path) (rs : List Ren)
    (hwf : C02ren.TreeWF t) (hv : GoodVals vmap)
    (hsl : ∀ e ∈ t, ∀ c ∈ e.1, (47 : UInt8) ∉ c) (hg : NoGitRoots roots)
    (hacc : planRenames T o vmap t roots = .ok rs) :
    C02ren.LastOnly rs ∧ C02ren.DistinctSources rs ∧ C02ren.KindsOk t rs ∧ C02ren.SiblingDestsDistinct rs := by
  obtain ⟨hds, hmem⟩ := planRenames_mem hacc
  have hlo : C02ren.LastOnly rs := by
    intro r hr
    obtain ⟨⟨root, _, rs0, hok, hr0⟩, _⟩ := hmem r hr
    exact only_last_component T o vmap _ hv (slashFree_entriesOf t root hsl) r ((mem_accepted hok r).1 hr0).1
  have hdd : ∀ r ∈ rs, ∀ r' ∈ rs, r.newPath = r'.newPath → r = r' := by
    intro r hr r' hr' hnew
    obtain ⟨⟨A, hA, rsA, hokA, hrA⟩, hneA⟩ := hmem r hr
    obtain ⟨⟨B, hB, rsB, hokB, hrB⟩, hneB⟩ := hmem r' hr'
    -- a rename lies properly below the root that planned it, so that root is a prefix of its parent; same
    -- destination, hence same parent: the two roots are prefixes of it, so one lies below the other
    have pA := RenamePhase.pre_dropLast (accepted_entry hokA hrA).1 (hneA rfl A hA)
    have pB := RenamePhase.pre_dropLast (accepted_entry hokB hrB).1 (hneB rfl B hB)
    rw [← (hlo r hr).2.2.1, hnew, (hlo r' hr').2.2.1] at pA
    rcases RenamePhase.pre_comparable pA pB with hab | hba
    · exact (destinations_distinct T o vmap _ rsA hokA).2 r hrA r' (accepted_mono hab (hg B hB) hokA hokB hrB) hnew
    · exact (destinations_distinct T o vmap _ rsB hokB).2 r (accepted_mono hba (hg A hA) hokB hokA hrA) r' hrB hnew
  refine ⟨hlo, hds, fun r hr => ?_, siblingDests_of_distinct hlo hdd⟩
  obtain ⟨⟨root, _, rs0, hok, hr0⟩, _⟩ := hmem r hr
  obtain ⟨_, n, hn, hk⟩ := accepted_entry hok hr0
  rw [show lookup t r.path = some n from RenamePhase.lookup_of_mem hwf.1 hn, hk]
  cases n <;> simp [ekindOf, kindOf, C02ren.isDirNode]

/-- COMPOSITION.  Tree `t` well formed, everything below the search roots walked (any number of roots, nested or
    repeated ones included), the plan accepted (no conflict) and its
    destinations free on disk (the pre-flight check of `apply_plan`): STEP 3 succeeds, the resulting tree is
    `moveAll rs t` — every node sits at `finalPath rs q`, i.e. its ancestors' renames and its own applied —
    nodes keep content/mode/target, and a path without a renamed prefix has not moved. -/
theorem apply_places_everything (T : Tables) (o : Opts) (vmap : List VEntry) (t : Tree) (roots : List Path)
    (rs : List Ren) (hwf : C02ren.TreeWF t) (hv : GoodVals vmap)
    (hsl : ∀ e ∈ t, ∀ c ∈ e.1, (47 : UInt8) ∉ c) (hg : NoGitRoots roots)
    (hacc : planRenames T o vmap t roots = .ok rs) (hpre : preflightOk t rs = true) :
    (renamePhase t [] (sortRens rs)).outcome = .ok ∧
    (renamePhase t [] (sortRens rs)).tree = C02ren.moveAll rs t ∧
    (∀ e ∈ t, lookup (C02ren.moveAll rs t) (C02ren.finalPath rs e.1) = lookup t e.1) ∧
    (C02ren.moveAll rs t).map (·.2) = t.map (·.2) ∧
    (∀ q, (∀ r ∈ rs, pre r.path q = false) → C02ren.finalPath rs q = q) ∧
    (∀ r ∈ rs, ∃ c, r.newPath = r.path.dropLast ++ [c] ∧
      C02ren.finalPath rs r.path = C02ren.finalPath rs r.path.dropLast ++ [c]) := by
  obtain ⟨h1, h2, h4, hsd⟩ := accepted_guards T o vmap t roots rs hwf hv hsl hg hacc
  have h5 : C02ren.DestFree t rs := (C02ren.destFree_iff_preflight t rs h1 hwf).2 ⟨hpre, hsd⟩
  have hok := C02ren.renamePhase_ok t rs h1 h2 hwf h4 h5
  exact ⟨hok.1, hok.2.1, fun e he => C02ren.lookup_after t rs h1 hwf h5 e he, C02ren.nodes_preserved rs t,
    fun q hq => C02ren.nothing_else_moves rs q hq, fun r hr => C02ren.finalPath_source rs h1 h2 r hr⟩

theorem same_style_core (T : Tables) (o : Opts) (vmap : List VEntry) {name new : Bytes} {v : VEntry}
    (hfirst : firstKey vmap name = some v) (hplain : plainName T o vmap v name = new)
    (hco : o.coerce = false ∨ applyCoercion T name v.key v.val = none ∨ applyCoercion T name v.key v.val = some new)
    (hne : new ≠ name) : newNameFor T o vmap name = some new := by
  have : (new == name) = false := by simpa using hne
  simp [newNameFor, hfirst, candidate_of_coercion hplain hco, this]

/-- SAME-STYLE NAME (shape "first key only", the source as it is while `Gen.renameAllVariantsInName = false`).
    `name = pfx ++ key ++ sfx`, where `key ↦ val` is the row that is found first for this name
    (for `key = toStyle A ws_s st`, `val = toStyle A ws_r st` this row exists by `C18.variant_table`), the key
    occurs only there, and coercion is off, declines, or agrees: the new name is `pfx ++ val ++ sfx` — the term
    rewritten in the same style, affixes and extension untouched. -/
theorem same_style_name (T : Tables) (o : Opts) (vmap : List VEntry) (pfx sfx key val : Bytes) (hk : key ≠ [])
    (hshape : T.allVariants = false)
    (hfirst : firstKey vmap (pfx ++ (key ++ sfx)) = some { key := key, val := val, amb := none })
    (hearly : ∀ k, k < pfx.length → key.isPrefixOf ((pfx ++ (key ++ sfx)).drop k) = false)
    (hlate : containsSub sfx key = false)
    (hco : o.coerce = false ∨ applyCoercion T (pfx ++ (key ++ sfx)) key val = none ∨
           applyCoercion T (pfx ++ (key ++ sfx)) key val = some (pfx ++ (val ++ sfx)))
    (hne : val ≠ key) :
    newNameFor T o vmap (pfx ++ (key ++ sfx)) = some (pfx ++ (val ++ sfx)) := by
  refine same_style_core T o vmap hfirst ?_ hco (by simpa using hne)
  unfold plainName replOf
  rw [hshape]
  cases o.withSearch <;> exact replaceAll_single pfx key val sfx hk hearly hlate

/-- SAME-STYLE NAME (shape "every variant", `T.allVariants = true`, with search/replace): no variant starts inside
    `pfx` or `sfx` and `key ↦ val` is the first row that starts at `key ++ sfx`: the new name is
    `pfx ++ val ++ sfx`. -/
theorem same_style_name_all_variants (T : Tables) (o : Opts) (vmap : List VEntry) (pfx sfx key val : Bytes)
    (hshape : T.allVariants = true) (hws : o.withSearch = true)
    (hfirst : firstKey vmap (pfx ++ (key ++ sfx)) = some { key := key, val := val, amb := none })
    (hpfx : ∀ k, k < pfx.length → startsHere vmap ((pfx ++ (key ++ sfx)).drop k) = none)
    (hhere : startsHere vmap (key ++ sfx) = some { key := key, val := val, amb := none })
    (hsfx : ∀ k, k < sfx.length → startsHere vmap (sfx.drop k) = none)
    (hco : o.coerce = false ∨ applyCoercion T (pfx ++ (key ++ sfx)) key val = none ∨
           applyCoercion T (pfx ++ (key ++ sfx)) key val = some (pfx ++ (val ++ sfx)))
    (hne : val ≠ key) :
    newNameFor T o vmap (pfx ++ (key ++ sfx)) = some (pfx ++ (val ++ sfx)) := by
  refine same_style_core T o vmap hfirst ?_ hco (by simpa using hne)
  rw [plainName, hws, hshape, if_pos rfl, if_pos rfl]
  exact rewriteAll_single (v := ⟨key, val, none⟩) hpfx hhere hsfx

/-- NO OCCURRENCE LEFT.  With the shape "every variant" (`T.allVariants = true`, search/replace given) the name
    before coercion is the old name cut into occurrences of variants — each replaced by its text — and single
    bytes that are copied, and a byte is copied only at a position where no variant starts: every occurrence of
    every enabled variant that does not overlap an earlier one is rewritten.  When coercion is off or declines,
    this is the planned name. -/
theorem no_variant_left (T : Tables) (o : Opts) (vmap : List VEntry) (name n : Bytes)
    (hshape : T.allVariants = true) (hws : o.withSearch = true)
    (hco : o.coerce = false ∨ ∀ v ∈ vmap, applyCoercion T name v.key v.val = none)
    (h : newNameFor T o vmap name = some n) : Rewritten vmap name n := by
  obtain ⟨v, hf, rfl⟩ := newNameFor_some h
  have hplain : plainName T o vmap v name = rewriteAll vmap name := by rw [plainName, hws, hshape]; rfl
  rw [candidate_of_coercion hplain (hco.imp id fun h => Or.inl (h v (firstKey_some hf).1))]
  exact rewriteAll_spec vmap name.length name (Nat.le_refl _)

/-- the variant map of `foo_bar → baz_qux` for the default styles, in `BTreeMap` order -/
def vm0 : List VEntry :=
  [⟨b!"FOO BAR", b!"BAZ QUX", none⟩, ⟨b!"FOO-BAR", b!"BAZ-QUX", none⟩, ⟨b!"FOO_BAR", b!"BAZ_QUX", none⟩,
   ⟨b!"Foo Bar", b!"Baz Qux", none⟩, ⟨b!"Foo bar", b!"Baz qux", none⟩, ⟨b!"Foo-Bar", b!"Baz-Qux", none⟩,
   ⟨b!"FooBar", b!"BazQux", none⟩, ⟨b!"foo bar", b!"baz qux", none⟩, ⟨b!"foo-bar", b!"baz-qux", none⟩,
   ⟨b!"fooBar", b!"bazQux", none⟩, ⟨b!"foo_bar", b!"baz_qux", none⟩]

def o0 : Opts := { cwd := [b!"proj"] }

def exTree : Tree :=
  [([b!"proj"], .dir 493),
   ([b!"proj", b!"foo_bar"], .dir 493),
   ([b!"proj", b!"foo_bar", b!"FooBar"], .dir 493),
   ([b!"proj", b!"foo_bar", b!"FooBar", b!"fooBarTest.rs"], .file b!"x" 420),
   ([b!"proj", b!"foo_bar", b!"FooBar", b!"my-foo-bar.txt"], .file b!"y" 420),
   ([b!"proj", b!"foo_bar", b!"FooBar", b!"README.md"], .file b!"z" 420),
   ([b!"proj", b!"foo_bar", b!"FOO_BAR_LINK"], .link b!"nowhere"),
   ([b!"proj", b!"Foo-Bar.md"], .file b!"w" 420),
   ([b!"proj", b!"notes.txt"], .file b!"n" 420)]

/-- the plan in the planner's order: directories deepest first, files by path -/
def exPlan : List Ren :=
  [⟨[b!"proj", b!"foo_bar", b!"FooBar"], [b!"proj", b!"foo_bar", b!"BazQux"], .dir⟩,
   ⟨[b!"proj", b!"foo_bar"], [b!"proj", b!"baz_qux"], .dir⟩,
   ⟨[b!"proj", b!"Foo-Bar.md"], [b!"proj", b!"Baz-Qux.md"], .file⟩,
   ⟨[b!"proj", b!"foo_bar", b!"FOO_BAR_LINK"], [b!"proj", b!"foo_bar", b!"BAZ_QUX_LINK"], .file⟩,
   ⟨[b!"proj", b!"foo_bar", b!"FooBar", b!"fooBarTest.rs"], [b!"proj", b!"foo_bar", b!"FooBar", b!"bazQuxTest.rs"], .file⟩,
   ⟨[b!"proj", b!"foo_bar", b!"FooBar", b!"my-foo-bar.txt"], [b!"proj", b!"foo_bar", b!"FooBar", b!"my-baz-qux.txt"], .file⟩]

/-- the planner (with coercion, real tables) produces this plan … -/
theorem example_plan : planRenames T0 o0 vm0 exTree [[b!"proj"]] = .ok exPlan := by decide +kernel

theorem example_guards : C02ren.TreeWF exTree ∧ GoodVals vm0 ∧ (∀ e ∈ exTree, ∀ c ∈ e.1, (47 : UInt8) ∉ c) ∧
    preflightOk exTree exPlan = true := by decide +kernel

/-- … the hypotheses of `apply_places_everything` about tree, variant map and destinations hold … -/
example : C02ren.TreeWF exTree ∧ GoodVals vm0 ∧ (∀ e ∈ exTree, ∀ c ∈ e.1, (47 : UInt8) ∉ c) ∧
    preflightOk exTree exPlan = true := example_guards

/-- … and the model of STEP 3 puts every node where `apply_places_everything` says
    (evaluated independently of the theorem; the working directory itself is not renamed). -/
theorem example_apply :
    (applyPlan exTree ⟨[], exPlan⟩).outcome = .ok ∧
    (applyPlan exTree ⟨[], exPlan⟩).tree =
      [([b!"proj"], .dir 493),
       ([b!"proj", b!"baz_qux"], .dir 493),
       ([b!"proj", b!"baz_qux", b!"BazQux"], .dir 493),
       ([b!"proj", b!"baz_qux", b!"BazQux", b!"bazQuxTest.rs"], .file b!"x" 420),
       ([b!"proj", b!"baz_qux", b!"BazQux", b!"my-baz-qux.txt"], .file b!"y" 420),
       ([b!"proj", b!"baz_qux", b!"BazQux", b!"README.md"], .file b!"z" 420),
       ([b!"proj", b!"baz_qux", b!"BAZ_QUX_LINK"], .link b!"nowhere"),
       ([b!"proj", b!"Baz-Qux.md"], .file b!"w" 420),
       ([b!"proj", b!"notes.txt"], .file b!"n" 420)] := by decide +kernel

/-- the theorem applied to the example, coercion ON and the real tables (no contract is left to assume) -/
example : (renamePhase exTree [] (sortRens exPlan)).tree = C02ren.moveAll exPlan exTree :=
  (apply_places_everything T0 o0 vm0 exTree [[b!"proj"]] exPlan example_guards.1 example_guards.2.1
    example_guards.2.2.1 (by decide) example_plan example_guards.2.2.2).2.1

/-- same-style names in the six name styles, with affix words and extensions (coercion on, real tables) -/
theorem example_same_style :
    newNameFor T0 o0 vm0 b!"my_foo_bar_test.rs" = some b!"my_baz_qux_test.rs" ∧
    newNameFor T0 o0 vm0 b!"foo-bar-impl.md" = some b!"baz-qux-impl.md" ∧
    newNameFor T0 o0 vm0 b!"getFooBarParams.js" = some b!"getBazQuxParams.js" ∧
    newNameFor T0 o0 vm0 b!"fooBarTest.txt" = some b!"bazQuxTest.txt" ∧
    newNameFor T0 o0 vm0 b!"MY_FOO_BAR.h" = some b!"MY_BAZ_QUX.h" ∧
    newNameFor T0 o0 vm0 b!"Foo-Bar-Notes.txt" = some b!"Baz-Qux-Notes.txt" ∧
    newNameFor T0 o0 vm0 b!".foo_bar.tar.gz" = some b!".baz_qux.tar.gz" ∧
    newNameFor T0 o0 vm0 b!"foo_bars.txt" = some b!"baz_quxs.txt" ∧
    newNameFor T0 o0 vm0 b!"foobar.txt" = none := by decide +kernel

/-- the two shapes of `determine_filename_replacement`, fixed independently of the generated flag -/
def T0first : Tables := { T0 with allVariants := false }
def T0all : Tables := { T0 with allVariants := true }

/-- the hypotheses of `same_style_name` are satisfiable … -/
example : newNameFor T0first { o0 with coerce := false } vm0 (b!"my-" ++ (b!"FooBar" ++ b!".txt")) =
    some (b!"my-" ++ (b!"BazQux" ++ b!".txt")) :=
  same_style_name T0first _ vm0 b!"my-" b!".txt" b!"FooBar" b!"BazQux" (by decide) rfl (by decide +kernel)
    (by decide +kernel) (by decide +kernel) (Or.inl rfl) (by decide)

/-- … and so are those of `same_style_name_all_variants` -/
example : newNameFor T0all { o0 with coerce := false } vm0 (b!"my-" ++ (b!"FooBar" ++ b!".txt")) =
    some (b!"my-" ++ (b!"BazQux" ++ b!".txt")) :=
  same_style_name_all_variants T0all _ vm0 b!"my-" b!".txt" b!"FooBar" b!"BazQux" rfl rfl (by decide +kernel)
    (by decide +kernel) (by decide +kernel) (by decide +kernel) (Or.inl rfl) (by decide)

/-- two siblings with one destination: the plan is refused (one conflict), nothing is planned -/
theorem example_refused :
    planRenames T0 o0 [⟨b!"foo-bar", b!"qux", none⟩, ⟨b!"foo_bar", b!"qux", none⟩]
      [([b!"proj"], .dir 493), ([b!"proj", b!"foo_bar.txt"], .file b!"x" 420),
       ([b!"proj", b!"foo-bar.txt"], .file b!"x" 420)] [[b!"proj"]] = .error 1 := by decide +kernel

/-- a Windows device name as destination is refused as well -/
theorem example_reserved_refused :
    planRenames T0 o0 [⟨b!"foo_bar", b!"con", none⟩]
      [([b!"proj"], .dir 493), ([b!"proj", b!"foo_bar.txt"], .file b!"x" 420)] [[b!"proj"]] = .error 1 := by
  decide +kernel

/-- C08 at full strength for the planner: for every tree, root list, flag set and variant map, an accepted plan
    (a) schedules no node twice, (b) under `--no-rename-files` schedules directories only, (c) schedules every
    enabled entry below a root whose name has a single occurrence of a key, and (d) gives such a name the value in
    place of the key, everything else untouched. -/
def C08_full : Prop :=
  ∀ (T : Tables) (o : Opts) (vmap : List VEntry) (t : Tree) (roots : List Path) (rs : List Ren),
    C02ren.TreeWF t → GoodVals vmap → planRenames T o vmap t roots = .ok rs →
    C02ren.DistinctSources rs ∧
    (o.renameFiles = false → ∀ r ∈ rs, lookup t r.path = none ∨ C02ren.isDirNode (lookup t r.path) = true) ∧
    (∀ root ∈ roots, ∀ e ∈ entriesOf t root, e.1 ≠ root → KindEnabled o e →
      ∀ v ∈ vmap, ∀ pfx sfx, e.1.getLast? = some (pfx ++ (v.key ++ sfx)) → v.val ≠ v.key →
        ∃ r ∈ rs, r.path = e.1) ∧
    (∀ r ∈ rs, ∀ v ∈ vmap, ∀ pfx sfx, r.path.getLast? = some (pfx ++ (v.key ++ sfx)) →
      (∀ w ∈ vmap, ∀ k, k ≤ (pfx ++ (v.key ++ sfx)).length →
        w.key.isPrefixOf ((pfx ++ (v.key ++ sfx)).drop k) = true → k = pfx.length ∧ w = v) →
      r.newPath.getLast? = some (pfx ++ (v.val ++ sfx)))

/-- BEFORE 4d2e5a7 (which repaired the finding `overlapping_roots_duplicate_renames`): the per-root loop alone — which
    was the whole plan then — schedules the file below both roots `proj` and `proj/sub` twice, and `apply` fails
    on the second copy.  With `dedup_renames` the plan has it once and `apply` succeeds. -/
theorem overlapping_roots_before_and_after_fix :
    let t : Tree := [([b!"proj"], .dir 493), ([b!"proj", b!"sub"], .dir 493),
                     ([b!"proj", b!"sub", b!"foo_bar.txt"], .file b!"x" 420)]
    let r : Ren := ⟨[b!"proj", b!"sub", b!"foo_bar.txt"], [b!"proj", b!"sub", b!"baz_qux.txt"], .file⟩
    planLoop T0 o0 vm0 ([[b!"proj"], [b!"proj", b!"sub"]].map (entriesOf t)) = .ok [r, r] ∧
    ¬ C02ren.DistinctSources [r, r] ∧
    (applyPlan t ⟨[], [r, r]⟩).outcome = .renameFailed .ENOTDIR ∧
    planRenames T0 o0 vm0 t [[b!"proj"], [b!"proj", b!"sub"]] = .ok [r] ∧
    planRenames T0 o0 vm0 t [[b!"proj"], [b!"proj"]] = .ok [r] ∧
    planRenames T0 o0 vm0 t [[b!"proj", b!"sub"], [b!"proj"]] = .ok [r] ∧
    (applyPlan t ⟨[], [r]⟩).outcome = .ok := by decide +kernel

/-- what the walk of the root `proj` yields when `proj/build` is ignored, and what the walk of `proj/build/foo_bar_gen` yields -/
def exOuterWalk : List Entry :=
  [([b!"proj"], .dir), ([b!"proj", b!"foo_bar.txt"], .file), ([b!"proj", b!"build"], .dir)]
def exInnerWalk : List Entry :=
  [([b!"proj", b!"build", b!"foo_bar_gen"], .dir), ([b!"proj", b!"build", b!"foo_bar_gen", b!"foo_bar.rs"], .file)]

/-- the seeded shape "outermost roots only" would lose a root that the enclosing root's walk does not reach: the
    inner root `proj/build/foo_bar_gen` lies below `proj/build`, which the outer root's walk skips (ignored), so the
    outer entry list lacks it; planning all roots schedules it and its content, planning the outer root alone
    schedules neither -/
theorem nested_root_hidden_from_outer_walk :
    planMulti T0 o0 vm0 [exOuterWalk, exInnerWalk] =
      .ok [⟨[b!"proj", b!"foo_bar.txt"], [b!"proj", b!"baz_qux.txt"], .file⟩,
           ⟨[b!"proj", b!"build", b!"foo_bar_gen"], [b!"proj", b!"build", b!"baz_qux_gen"], .dir⟩,
           ⟨[b!"proj", b!"build", b!"foo_bar_gen", b!"foo_bar.rs"], [b!"proj", b!"build", b!"foo_bar_gen", b!"baz_qux.rs"], .file⟩] ∧
    planMulti T0 o0 vm0 [exOuterWalk] = .ok [⟨[b!"proj", b!"foo_bar.txt"], [b!"proj", b!"baz_qux.txt"], .file⟩] := by
  decide +kernel

/-- BEFORE / AFTER 0109402 (finding `cross_root_shared_destination`, repaired): two FILES given as search paths,
    `foo_bar.txt` and `foo-bar.txt`, replacement `baz`.  Every root is conflict-free on its own; without the check
    of the merged list both renames to `baz.txt` are planned, the exists test of the pre-flight passes (the destination
    does not exist yet), STEP 3 reports success and one of the two files is gone.  With the check the scan is refused. -/
theorem cross_root_before_and_after_fix :
    let t : Tree := [([b!"proj"], .dir 493), ([b!"proj", b!"foo_bar.txt"], .file b!"A" 420),
                     ([b!"proj", b!"foo-bar.txt"], .file b!"B" 420)]
    let vm : List VEntry := [⟨b!"foo-bar", b!"baz", none⟩, ⟨b!"foo_bar", b!"baz", none⟩]
    let roots : List Path := [[b!"proj", b!"foo_bar.txt"], [b!"proj", b!"foo-bar.txt"]]
    let r1 : Ren := ⟨[b!"proj", b!"foo_bar.txt"], [b!"proj", b!"baz.txt"], .file⟩
    let r2 : Ren := ⟨[b!"proj", b!"foo-bar.txt"], [b!"proj", b!"baz.txt"], .file⟩
    planMulti { T0 with crossRootCheck := false } o0 vm (roots.map (entriesOf t)) = .ok [r1, r2] ∧
    preflightOk t [r1, r2] = true ∧
    (renamePhase t [] (sortRens [r1, r2])).outcome = .ok ∧
    (renamePhase t [] (sortRens [r1, r2])).tree.length = 2 ∧
    -- second net since repo commit 01297aa: `apply_plan` itself refuses such a plan, tree untouched
    (applyPlan t ⟨[], [r1, r2]⟩).outcome = .sharedDest ∧
    (applyPlan t ⟨[], [r1, r2]⟩).tree = t ∧
    planMulti { T0 with crossRootCheck := true } o0 vm (roots.map (entriesOf t)) = .error 1 ∧
    -- sibling directory roots collide in the same way
    planMulti { T0 with crossRootCheck := true } o0 vm
      ([[b!"proj", b!"foo_bar"], [b!"proj", b!"foo-bar"]].map
        (entriesOf [([b!"proj"], .dir 493), ([b!"proj", b!"foo_bar"], .dir 493), ([b!"proj", b!"foo-bar"], .dir 493)]))
      = .error 1 := by decide +kernel

/-- `apply_places_everything` is not vacuous for nested roots: the example tree with the roots `proj`,
    `proj/foo_bar` and `proj` again gives the same plan (the nested root itself is not renamed: it is a root) -/
example : ∃ rs, planRenames T0 o0 vm0 exTree [[b!"proj"], [b!"proj", b!"foo_bar"], [b!"proj"]] = .ok rs ∧
    rs.length = 5 ∧ C02ren.DistinctSources rs ∧ preflightOk exTree rs = true ∧
    NoGitRoots [[b!"proj"], [b!"proj", b!"foo_bar"], [b!"proj"]] := by
  refine ⟨exPlan.filter (fun r => r.path != [b!"proj", b!"foo_bar"]), ?_⟩
  decide +kernel

/-- WITNESS (finding `coercion_restyles_term`): the term in camel / screaming-snake / pascal style next to a word
    attached with `_` is re-rendered in snake style; without coercion it keeps its style. -/
theorem C08_witness_coercion_restyles_term :
    newNameFor T0 o0 vm0 b!"my_fooBar.txt" = some b!"my_baz_qux.txt" ∧
    newNameFor T0 o0 vm0 b!"FOO_BAR_test.rs" = some b!"baz_qux_test.rs" ∧
    newNameFor T0 o0 vm0 b!"FooBar_x" = some b!"baz_qux_x" ∧
    newNameFor T0 { o0 with coerce := false } vm0 b!"my_fooBar.txt" = some b!"my_bazQux.txt" ∧
    newNameFor T0 { o0 with coerce := false } vm0 b!"FOO_BAR_test.rs" = some b!"BAZ_QUX_test.rs" := by
  decide +kernel

/-- WITNESS (finding `two_styles_in_one_name`), on the shape "first key only" — the source as long as
    `Gen.renameAllVariantsInName = false`: only the first key in map order is rewritten (`FooBar` sorts before
    `foo_bar`), the other occurrence keeps the old term. -/
theorem C08_witness_two_styles_in_one_name :
    newNameFor T0first o0 vm0 b!"foo_bar-FooBar.txt" = some b!"foo_bar-BazQux.txt" ∧
    newNameFor T0first o0 vm0 b!"FooBar.foo-bar.d" = some b!"BazQux.foo-bar.d" := by decide +kernel

/-- … and on the shape "every variant" (seeded/_fixes/c08_all_variants_in_name.diff): both occurrences are rewritten,
    each in its own style; single-style names, plural suffixes and everything coercion decides are unchanged
    (`foo_bar_FOO_BAR.txt` is still coerced to snake: finding `coercion_restyles_term`, by design). -/
theorem two_styles_all_variants :
    newNameFor T0all o0 vm0 b!"foo_bar-FooBar.txt" = some b!"baz_qux-BazQux.txt" ∧
    newNameFor T0all o0 vm0 b!"FooBar.foo-bar.d" = some b!"BazQux.baz-qux.d" ∧
    newNameFor T0all o0 vm0 b!"foo_bars.tar.gz" = newNameFor T0first o0 vm0 b!"foo_bars.tar.gz" ∧
    newNameFor T0all o0 vm0 b!"foo_bar_FOO_BAR.txt" = some b!"baz_qux_baz_qux.txt" ∧
    newNameFor T0first o0 vm0 b!"foo_bar_FOO_BAR.txt" = some b!"baz_qux_baz_qux.txt" ∧
    newNameFor T0all o0 vm0 b!"my_fooBar.txt" = some b!"my_baz_qux.txt" ∧
    -- a two-style name that coercion takes over keeps its second occurrence in both shapes (coercion replaces the
    -- first key case-insensitively and overrides the scan): part of `coercion_restyles_term`
    newNameFor T0all o0 vm0 b!"fooBar_foo_bar" = some b!"baz_qux_foo_bar" ∧
    newNameFor T0first o0 vm0 b!"fooBar_foo_bar" = some b!"baz_qux_foo_bar" := by decide +kernel

/-- the hypotheses of `no_variant_left` are satisfiable (coercion on: it declines for this name) -/
example : Rewritten vm0 b!"foo_bar-FooBar.txt" b!"baz_qux-BazQux.txt" :=
  no_variant_left T0all o0 vm0 _ _ rfl rfl (Or.inr (by decide +kernel)) two_styles_all_variants.1

/-- FLAGS (since 4ad17ef; finding `no_rename_files_renames_symlinks` repaired): with `rename_files = false`
    only directories are planned — regular files and symlinks alike are left alone — and with
    `rename_dirs = false` no directory is planned. -/
theorem flags_respected (T : Tables) (o : Opts) (vmap : List VEntry) (es : List Entry) :
    (o.renameFiles = false → ∀ e : Entry, e.2 ≠ .dir → planEntry T o vmap e = none) ∧
    (o.renameFiles = false → ∀ r ∈ collect T o vmap es, r.kind = .dir) ∧
    (o.renameDirs = false → ∀ r ∈ collect T o vmap es, r.kind = .file) := by
  refine ⟨fun hf e hk => ?_, fun hf r hr => ?_, fun hd r hr => ?_⟩
  · cases hp : planEntry T o vmap e with
    | none => rfl
    | some r' => exact absurd ⟨hk, hf⟩ (planEntry_eq_some.1 hp).1.2
  · obtain ⟨e, _, hp⟩ := mem_collect.1 hr
    obtain ⟨⟨_, h2⟩, _, _, _, _, rfl⟩ := planEntry_eq_some.1 hp
    have : e.2 = .dir := Decidable.byContradiction (fun hne => h2 ⟨hne, hf⟩)
    rw [this]; rfl
  · obtain ⟨e, _, hp⟩ := mem_collect.1 hr
    obtain ⟨⟨h1, _⟩, _, _, _, _, rfl⟩ := planEntry_eq_some.1 hp
    cases hk : e.2 with
    | dir => exact absurd ⟨hk, hd⟩ h1
    | file => rfl
    | symlink => rfl

/-- after 4ad17ef, evaluated: neither a regular file nor a symlink named with the term is planned under
    `rename_files = false`; a directory still is; without the flag the symlink is planned as kind `file` -/
theorem no_rename_files_after_fix :
    planEntry T0 { o0 with renameFiles := false } vm0 ([b!"proj", b!"foo_bar_link"], .file) = none ∧
    planEntry T0 { o0 with renameFiles := false } vm0 ([b!"proj", b!"foo_bar_link"], .symlink) = none ∧
    planEntry T0 { o0 with renameFiles := false } vm0 ([b!"proj", b!"foo_bar_link"], .dir) =
      some ⟨[b!"proj", b!"foo_bar_link"], [b!"proj", b!"baz_qux_link"], .dir⟩ ∧
    planEntry T0 o0 vm0 ([b!"proj", b!"foo_bar_link"], .symlink) =
      some ⟨[b!"proj", b!"foo_bar_link"], [b!"proj", b!"baz_qux_link"], .file⟩ := by decide +kernel

/-- ROOT FILTER (since ed3f0d7; finding `symlink_to_root_treated_as_root` repaired): without `--rename-root`
    exactly the renames whose source *is* a search root are dropped — nothing else, whatever a symlink points at;
    with `--rename-root` nothing is dropped. -/
theorem root_filter_exact (roots : List Path) (rs : List Ren) (r : Ren) :
    (r ∈ filterRoots roots false rs ↔ r ∈ rs ∧ r.path ∉ roots) ∧
    (r ∈ filterRoots roots true rs ↔ r ∈ rs) := by
  simp only [filterRoots, mem_filterRootsBy]
  exact ⟨and_congr_right fun _ => ⟨fun h hm => h.resolve_left Bool.false_ne_true _ hm rfl,
    fun h => Or.inr fun root hr e => h (e ▸ hr)⟩, and_iff_left (Or.inl trivial)⟩

/-- BEFORE / AFTER ed3f0d7: with the source located by `Path::canonicalize` (which follows the link) the link
    `proj/sub/foo_bar_self -> .` is taken for the root `proj/sub` and dropped; located by parent + own name it is
    renamed like its sibling.  (`canon t 8`: the old locator, following at most 8 links; here there is one.) -/
theorem symlink_to_root_before_and_after_fix :
    let t : Tree := [([b!"proj"], .dir 493), ([b!"proj", b!"sub"], .dir 493),
                     ([b!"proj", b!"sub", b!"foo_bar_self"], .link b!"."),
                     ([b!"proj", b!"sub", b!"foo_bar.txt"], .file b!"x" 420)]
    let f : Ren := ⟨[b!"proj", b!"sub", b!"foo_bar.txt"], [b!"proj", b!"sub", b!"baz_qux.txt"], .file⟩
    let l : Ren := ⟨[b!"proj", b!"sub", b!"foo_bar_self"], [b!"proj", b!"sub", b!"baz_qux_self"], .file⟩
    planMulti T0 o0 vm0 [entriesOf t [b!"proj", b!"sub"]] = .ok [f, l] ∧
    filterRootsBy (canon t 8) [[b!"proj", b!"sub"]] false [f, l] = [f] ∧
    planRenames T0 o0 vm0 t [[b!"proj", b!"sub"]] = .ok [f, l] ∧
    (applyPlan t ⟨[], [f, l]⟩).outcome = .ok := by decide +kernel

/-- the full-strength statement is false today: clause (d), by the coercion witness (`my_fooBar.txt`) -/
theorem C08_full_false : ¬ C08_full := by
  intro h
  let t : Tree := [([b!"proj"], .dir 493), ([b!"proj", b!"my_fooBar.txt"], .file b!"x" 420)]
  let r : Ren := ⟨[b!"proj", b!"my_fooBar.txt"], [b!"proj", b!"my_baz_qux.txt"], .file⟩
  have hp : planRenames T0 o0 vm0 t [[b!"proj"]] = .ok [r] := by decide +kernel
  have := (h T0 o0 vm0 t [[b!"proj"]] [r] (by decide +kernel) example_guards.2.1 hp).2.2.2 r (by simp)
    ⟨b!"fooBar", b!"bazQux", none⟩ (by decide) b!"my_" b!".txt" (by decide +kernel) (by decide +kernel)
  exact absurd this (by decide +kernel)

end C08
