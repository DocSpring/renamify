import RModel.Base.Lit
import RModel.Model.History
import RModel.Model.HistorySpec
import RModel.Model.HistoryTree
import RModel.Model.HistoryTreeDir
import RModel.Lemmas.HistoryRefine
import RModel.Lemmas.HistoryTree
/-
  C10 — History is a consistent append-only record under any operation sequence.   (property theorems only)

  The model has four switchable checks (`Cfg`): `earlyDupCheck` (c3d511b), `redoOnce` (07a4584), the pre-validations
  `undoPrevalidate` (657a7be), `redoPrevalidate` (3933d7f), and two shape flags: `planBeforeEntry` (6667a82: the plan is
  stored before the history entry, which is the commit point) and `revertIdOfRoot` (false in the code; a seeded change
  builds the revert id on the root plan id).
  `Cfg.current` is REGENERATED from the source (Gen/HistoryFlags.lean); the driver runs it.  Every theorem below is
  stated for an arbitrary `cfg` with explicit hypotheses on its flags (or on a fixed named configuration), so the file
  checks whatever the flags are; `current_shape` says which configuration the translator read from the code (all four
  checks, plan before entry, revert id on the entry id) — if a check disappears from the code this stops checking.

  Full statement: `C10_full cfg` (a `def … : Prop`).  `C10_full_false_without_prevalidation`: false for the code without
  the pre-validations (witnesses `undo_older_without_prevalidation`, `redo_partial_without_prevalidation`).

  `refines_spec_partial` (earlyDupCheck + redoOnce): under the guard `G10` and the round-trip law of the tree side every
  command conforms to the abstract history.  `G10`: `noPartial` (a rename's apply does not stop half-way: C04),
  `undoInPlace`, `redoInPlace` (tree = post- / pre-state of the addressed operation).  With the pre-validations the
  in-place clauses are not needed for "or is rejected leaving tree and history unchanged" (`undo_atomic`, `redo_atomic`:
  unconditional); they are needed only for "the tree is exactly the recorded pre- or post-state", which for an undo/redo
  that succeeds out of place is not what the history implies anyway (the check's oracle uses the per-file reading there).
  The directory instance used by the driver for workspaces with a renamed directory (`HistoryTreeDir`) has the generic
  theorems like every tree side; its round-trip law is not proved, only compared with the CLI.
-/
namespace C10
open History HistorySpec

section generic
variable {Tree Plan Backup H : Type} [DecidableEq H]

/-- One command leaves `entries` unchanged or appends exactly one entry whose id was not there;
    it appends iff it reports success. -/
theorem step_appends (cfg : Cfg) (ops : Ops Tree Plan Backup H) (w : World Tree Plan Backup H) (c : Cmd H) :
    ((step cfg ops w c).2 = .ok ∧ AppendsOne w.entries (step cfg ops w c).1.entries) ∨
    ((step cfg ops w c).2 ≠ .ok ∧ (step cfg ops w c).1.entries = w.entries) :=
  (History.step_entries cfg ops w c).imp_left fun ⟨e, hk, he, hf, _⟩ => ⟨hk, e, he, hf⟩

/-- Append-only, all sequences, all clocks: earlier entries are never lost, altered or duplicated. -/
theorem append_only (cfg : Cfg) (ops : Ops Tree Plan Backup H) (w : World Tree Plan Backup H) (cs : List (Cmd H)) :
    w.entries <+: (run cfg ops w cs).1.entries :=
  History.run_prefix cfg ops w cs

/-- … and the number of entries added is the number of commands that reported success. -/
theorem one_entry_per_success (cfg : Cfg) (ops : Ops Tree Plan Backup H) (w : World Tree Plan Backup H)
    (cs : List (Cmd H)) :
    (run cfg ops w cs).1.entries.length = w.entries.length + (run cfg ops w cs).2.count .ok := by
  induction cs generalizing w with
  | nil => rfl
  | cons c cs ih =>
    show (run cfg ops (step cfg ops w c).1 cs).1.entries.length = _ + List.count _ ((step cfg ops w c).2 :: _)
    rw [ih, List.count_cons]
    rcases step_appends cfg ops w c with ⟨hk, e, he, _⟩ | ⟨hk, he⟩
    · rw [he, hk, List.length_append]
      show _ + 1 + _ = _ + (_ + 1)
      omega
    · rw [he, if_neg (mt beq_iff_eq.1 hk)]
      rfl

/-- The appended id is fresh — because `add_entry` refuses a duplicate, whatever the id generator does. -/
theorem fresh_id_partial (cfg : Cfg) (ops : Ops Tree Plan Backup H) (w : World Tree Plan Backup H) (c : Cmd H)
    (e : Entry H) (h : (step cfg ops w c).1.entries = w.entries ++ [e]) : hasId w.entries e.id = false := by
  rcases step_appends cfg ops w c with ⟨_, e', he, hf⟩ | ⟨_, he⟩ <;> rw [he] at h
  · rw [← List.singleton_inj.1 (List.append_cancel_left h)]; exact hf
  · exact absurd (congrArg List.length h) (by simp)

/-- ids stay pairwise distinct along every run -/
theorem ids_nodup (cfg : Cfg) (ops : Ops Tree Plan Backup H) (w : World Tree Plan Backup H) (cs : List (Cmd H))
    (h : (w.entries.map (·.id)).Nodup) : ((run cfg ops w cs).1.entries.map (·.id)).Nodup := by
  refine History.run_invariant cfg ops (fun w => (w.entries.map (·.id)).Nodup) (fun w c h => ?_) w cs h
  rcases step_appends cfg ops w c with ⟨_, e, he, hf⟩ | ⟨_, he⟩ <;> rw [he]
  · rw [List.map_append, List.nodup_append]
    exact ⟨h, by simp, fun a ha b hb hab => (History.hasId_false_iff _ _).1 hf (by simp at hb; rw [← hb, ← hab]; exact ha)⟩
  · exact h

/-- A rejected command changes nothing: not the tree, not the history, not the stores below `.renamify`. -/
theorem rejected_unchanged (cfg : Cfg) (ops : Ops Tree Plan Backup H) (w : World Tree Plan Backup H) (c : Cmd H)
    (h : (step cfg ops w c).2 = .rejected) : (step cfg ops w c).1 = w := by
  cases c with
  | rename s r =>
    rcases History.rename_cases cfg ops w s r with h' | h' | h'
    · exact h'.2
    · rw [h'.1] at h; cases h
    · rw [h'.1] at h; cases h
  | undo t =>
    rcases History.undo_cases cfg ops w t with h' | ⟨_, _, _, _, _, _, h' | h'⟩
    · exact congrArg Prod.fst h'
    · rw [h'.1] at h; cases h
    · rw [h'.1] at h; cases h
  | redo t =>
    rcases History.redo_cases cfg ops w t with h' | ⟨_, _, _, _, _, _, _, _, h' | h'⟩
    · exact congrArg Prod.fst h'
    · rw [h'.1] at h; cases h
    · rw [h'.1] at h; cases h
  | tick => cases h

/-- Undo succeeds only on an entry that exists, is not itself a revert and has no revert yet;
    it then appends `revert-<id>-<now>` pointing at it. -/
theorem undo_eligibility (cfg : Cfg) (ops : Ops Tree Plan Backup H) (w : World Tree Plan Backup H) (t : Target H)
    (h : (step cfg ops w (.undo t)).2 = .ok) :
    ∃ i e, resolve w.entries true t = some i ∧ findEntry w.entries i = some e ∧ e.revertOf = none ∧
      hasRevertOf w.entries i = false ∧
      (step cfg ops w (.undo t)).1.entries = w.entries ++ [{ id := revertId cfg i w.clock, revertOf := some i }] := by
  rcases History.undo_cases cfg ops w t with h' | ⟨i, e, a, b, c, d, h' | h'⟩
  · rw [h'] at h; cases h
  · exact ⟨i, e, a, b, c, d, h'.2.2⟩
  · rw [h'.1] at h; cases h

/-- Redo succeeds only on an entry that exists and has a revert; it appends `redo-<id>-<now>`. -/
theorem redo_eligibility (cfg : Cfg) (ops : Ops Tree Plan Backup H) (w : World Tree Plan Backup H) (t : Target H)
    (h : (step cfg ops w (.redo t)).2 = .ok) :
    ∃ i, resolve w.entries false t = some i ∧ hasId w.entries i = true ∧ hasRevertOf w.entries i = true ∧
      (step cfg ops w (.redo t)).1.entries = w.entries ++ [{ id := .redo i w.clock, revertOf := none }] := by
  rcases History.redo_cases cfg ops w t with h' | ⟨i, _, a, b, c, _, _, _, h' | h'⟩
  · rw [h'] at h; cases h
  · exact ⟨i, a, b, c, h'.2.2⟩
  · rw [h'.1] at h; cases h

omit [DecidableEq H] in
/-- `latest` for undo never resolves to a revert entry, `latest` for redo always to the target of one. -/
theorem latest_undo_not_revert (es : List (Entry H)) (i : EId H) (h : latestUndo es = some i) :
    ∃ e ∈ es, e.id = i ∧ e.revertOf = none := by
  unfold latestUndo at h
  cases hf : es.reverse.find? (fun e => e.revertOf.isNone) with
  | none => simp [hf] at h
  | some e =>
    simp [hf] at h
    exact ⟨e, by simpa using List.mem_of_find?_eq_some hf, h, by simpa using List.find?_some hf⟩

theorem latest_redo_reverted (es : List (Entry H)) (i : EId H) (h : latestRedo es = some i) :
    hasRevertOf es i = true := by
  unfold latestRedo at h
  cases hf : es.reverse.find? (fun e => e.revertOf.isSome) with
  | none => simp [hf] at h
  | some e =>
    simp [hf] at h
    exact (History.hasRevertOf_iff _ _).2 ⟨e, by simpa using List.mem_of_find?_eq_some hf, h⟩

/-- With an injective hash, different (concatenated terms, second) give different ids. -/
theorem fresh_of_injective (ops : Ops Tree Plan Backup H)
    (hinj : ∀ k k' s s', ops.hash k s = ops.hash k' s' → k = k' ∧ s = s')
    (es : List (Entry H)) (key : Bytes) (now : Nat)
    (h : ∀ e ∈ es, (∀ h', e.id ≠ .plan h') ∨ (∃ k s, e.id = .plan (ops.hash k s) ∧ ¬ (k = key ∧ s = now))) :
    hasId es (.plan (ops.hash key now)) = false := by
  refine Bool.eq_false_iff.2 fun hh => ?_
  obtain ⟨e, he, hid⟩ := (History.hasId_iff _ _).1 hh
  rcases h e he with h1 | ⟨k, s, hk, hne⟩
  · exact h1 _ hid
  · exact hne (hinj _ _ _ _ (EId.plan.inj (hk.symm.trans hid)))

/-- ids of the form `revert-<j>-…` always belong to entries that revert `j`, along every run from an empty history -/
theorem revert_ids_wellformed (cfg : Cfg) (hRI : cfg.revertIdOfRoot = false) (ops : Ops Tree Plan Backup H) (t : Tree)
    (clock : Nat) (cs : List (Cmd H)) :
    History.RevForm (run cfg ops (init t clock : World Tree Plan Backup H) cs).1.entries :=
  History.run_invariant cfg ops (History.RevForm ·.entries) (fun w c => History.step_revForm cfg ops w hRI c) _ cs nofun

/-- 6667a82.  With the early id check the order "plan file, then history entry" vs "entry, then plan file" makes no
    difference to any command: the only step at which they differ (the entry cannot be recorded) is unreachable. -/
theorem plan_order_irrelevant (cfg : Cfg) (hE : cfg.earlyDupCheck = true) (b : Bool) (ops : Ops Tree Plan Backup H)
    (w : World Tree Plan Backup H) (id : EId H) (p : Plan) :
    applyWithId { cfg with planBeforeEntry := b } ops w id p = applyWithId cfg ops w id p := by
  unfold applyWithId
  by_cases hd : hasId w.entries id = true
  · simp [hd, hE]
  · have hd' : hasId w.entries id = false := by simpa using hd
    cases ha : ops.apply w.tree p <;> simp [hd', addEntry]

/-- c3d511b.  A rename whose id is already in the history — equal concatenated terms in the same second — changes
    nothing at all and does not report success; likewise `apply_plan` under any id that is already there (redo). -/
theorem duplicate_id_changes_nothing (cfg : Cfg) (hE : cfg.earlyDupCheck = true) (ops : Ops Tree Plan Backup H)
    (w : World Tree Plan Backup H) :
    (∀ s r, hasId w.entries (.plan (ops.hash (s ++ r) w.clock)) = true →
      (step cfg ops w (.rename s r)).1 = w ∧ (step cfg ops w (.rename s r)).2 ≠ .ok) ∧
    (∀ id p, hasId w.entries id = true → applyWithId cfg ops w id p = (w, .rejected)) := by
  refine ⟨fun s r h => ?_, fun id p h => History.applyWithId_dup cfg ops w hE id p h⟩
  show (stepRename cfg ops w s r).1 = w ∧ (stepRename cfg ops w s r).2 ≠ .ok
  unfold stepRename
  by_cases he : ops.isEmpty (ops.scan w.tree s r) = true
  · simp [he]
  · simp [he, History.applyWithId_dup cfg ops w hE _ _ h]

/-- The only way a rename fails after a change is the tree side stopping half-way; the same for `apply_plan`
    under any id. -/
theorem failed_only_by_partial_apply (cfg : Cfg) (hE : cfg.earlyDupCheck = true) (ops : Ops Tree Plan Backup H)
    (w : World Tree Plan Backup H) :
    (∀ s r, (step cfg ops w (.rename s r)).2 = .failed →
      ∃ t', ops.apply w.tree (ops.scan w.tree s r) = .partly t') ∧
    (∀ id p, (applyWithId cfg ops w id p).2 = .failed → ∃ t', ops.apply w.tree p = .partly t') := by
  refine ⟨fun s r h => ?_, fun id p h => ?_⟩
  · rcases History.rename_cases cfg ops w s r with h' | h' | h'
    · rcases h'.1 with h1 | h1 <;> (rw [h1] at h; cases h)
    · rw [h'.1] at h; cases h
    · exact h'.2.2 hE
  · rcases History.applyWithId_cases cfg ops w id p with h' | h' | h'
    · rw [h'] at h; cases h
    · rw [h'.1] at h; cases h
    · exact h'.2.2 hE

/-- 07a4584.  A redo succeeds only on an id that has no redo entry yet, and gives it one. -/
theorem redo_only_once (cfg : Cfg) (hR : cfg.redoOnce = true) (ops : Ops Tree Plan Backup H)
    (w : World Tree Plan Backup H) (t : Target H) (h : (step cfg ops w (.redo t)).2 = .ok) :
    ∃ i, resolve w.entries false t = some i ∧ hasRedoOf w.entries i = false ∧
      hasRedoOf (step cfg ops w (.redo t)).1.entries i = true := by
  rcases History.redo_cases cfg ops w t with h' | ⟨i, _, hr, _, _, h3, _, _, h' | h'⟩
  · rw [h'] at h; cases h
  · exact ⟨i, hr, h3 hR, by rw [h'.2.2, History.hasRedoOf_append, isRedoOf, beq_self_eq_true]; simp⟩
  · rw [h'.1] at h; cases h

/-- … and from then on, whatever commands follow, `redo <id>` is rejected with the world unchanged. -/
theorem redo_never_again (cfg : Cfg) (hR : cfg.redoOnce = true) (ops : Ops Tree Plan Backup H)
    (w : World Tree Plan Backup H) (i : EId H) (h : hasRedoOf w.entries i = true) (cs : List (Cmd H)) :
    step cfg ops (run cfg ops w cs).1 (.redo (.id i)) = ((run cfg ops w cs).1, .rejected) := by
  obtain ⟨rest, hrest⟩ := History.run_prefix cfg ops w cs
  have hp : hasRedoOf (run cfg ops w cs).1.entries i = true := by
    rw [← hrest]; unfold hasRedoOf at h ⊢; rw [List.any_append, h]; rfl
  rcases History.redo_cases cfg ops (run cfg ops w cs).1 (.id i) with h' | ⟨i', p, hr', _, _, h3, _⟩
  · exact h'
  · have : i = i' := by simp [resolve] at hr'; exact hr'.2
    rw [← this, hp] at h3; cases h3 hR

/-- 3933d7f, the redo pre-validation (with the early id check): in ANY state a redo either succeeds or changes nothing —
    not the tree, not the history, not the stores.  No guard. -/
theorem redo_atomic (cfg : Cfg) (hE : cfg.earlyDupCheck = true) (hP : cfg.redoPrevalidate = true)
    (ops : Ops Tree Plan Backup H) (w : World Tree Plan Backup H) (t : Target H)
    (h : (step cfg ops w (.redo t)).2 ≠ .ok) : (step cfg ops w (.redo t)).1 = w := by
  rcases History.redo_cases cfg ops w t with h' | ⟨i, p, _, _, _, _, _, hok, h' | h'⟩
  · exact congrArg Prod.fst h'
  · exact absurd h'.1 h
  · -- the stored plan was validated against the tree: `apply_plan` cannot stop half-way
    obtain ⟨t', ht'⟩ := h'.2.2 hE
    have := hok hP
    rw [ht'] at this; cases this

/-- 657a7be, the undo pre-validation: in any state whose revert ids are well-formed an undo either succeeds or changes
    nothing. -/
theorem undo_atomic (cfg : Cfg) (hU : cfg.undoPrevalidate = true) (hRI : cfg.revertIdOfRoot = false) (ops : Ops Tree Plan Backup H)
    (w : World Tree Plan Backup H) (t : Target H) (hF : History.RevForm w.entries)
    (h : (step cfg ops w (.undo t)).2 ≠ .ok) : (step cfg ops w (.undo t)).1 = w := by
  rcases History.undo_cases cfg ops w t with h' | ⟨i, e, _, _, _, hnr, h' | h'⟩
  · exact congrArg Prod.fst h'
  · exact absurd h'.1 h
  · -- the revert id is taken only by an entry that reverts `i`, and there is none
    obtain ⟨e', he', hid⟩ := (History.hasId_iff _ _).1 (h'.2.2 hU)
    have hrev := hF e' he' i w.clock (by simpa [revertId, hRI] using hid)
    rw [(History.hasRevertOf_iff _ _).2 ⟨e', he', hrev⟩] at hnr; cases hnr

/-- … hence after ANY command sequence from an empty history, with any clock schedule. -/
theorem undo_atomic_all_runs (cfg : Cfg) (hU : cfg.undoPrevalidate = true) (hRI : cfg.revertIdOfRoot = false) (ops : Ops Tree Plan Backup H)
    (tr : Tree) (clock : Nat) (cs : List (Cmd H)) (t : Target H)
    (h : (step cfg ops (run cfg ops (init tr clock) cs).1 (.undo t)).2 ≠ .ok) :
    (step cfg ops (run cfg ops (init tr clock) cs).1 (.undo t)).1 = (run cfg ops (init tr clock) cs).1 :=
  undo_atomic cfg hU hRI ops _ t (revert_ids_wellformed cfg hRI ops tr clock cs) h

/-- The full statement (not proved for any configuration; refuted for the one without the pre-validations,
    `C10_full_false_without_prevalidation`): whatever the tree side, as long as it has the undo
    round-trip law, every command of every sequence from an empty history conforms to the abstract history:
    it succeeds into the state the history implies with exactly one fresh entry, or changes neither tree nor history;
    undo only while applied, redo only while undone. -/
def C10_full (cfg : Cfg) : Prop :=
  ∀ (Tree Plan Backup H : Type) [DecidableEq H] (ops : Ops Tree Plan Backup H), RoundTrip ops →
    ∀ (t : Tree) (clock : Nat) (cs : List (Cmd H)),
      AllConform cfg ops (init t clock : World Tree Plan Backup H) ([] : Spec Tree H) cs

/-- Refinement under the guard: for every tree side with the round-trip law, every start tree, clock and command
    list whose steps all satisfy `G10`, every command conforms to the abstract history. -/
theorem refines_spec_partial [DecidableEq Tree] (cfg : Cfg) (hE : cfg.earlyDupCheck = true) (hR : cfg.redoOnce = true)
    (hRI : cfg.revertIdOfRoot = false) (ops : Ops Tree Plan Backup H) (hRT : RoundTrip ops) (t : Tree) (clock : Nat) (cs : List (Cmd H))
    (hG : Guarded cfg ops (init t clock : World Tree Plan Backup H) ([] : Spec Tree H) cs = true) :
    AllConform cfg ops (init t clock : World Tree Plan Backup H) ([] : Spec Tree H) cs :=
  History.guarded_conform cfg ops hE hR hRI hRT cs _ _ (History.inv_init ops t clock) hG

/-- One guarded step from any state satisfying the invariant (what the induction uses).  In particular: an undo
    that succeeds addresses an operation that is applied in the abstract history, a redo one that is undone — without
    the guard saying so. -/
theorem guarded_step_conforms [DecidableEq Tree] (cfg : Cfg) (hE : cfg.earlyDupCheck = true) (hR : cfg.redoOnce = true)
    (hRI : cfg.revertIdOfRoot = false) (ops : Ops Tree Plan Backup H) (hRT : RoundTrip ops)
    (w : World Tree Plan Backup H) (s : Spec Tree H) (c : Cmd H) (hI : History.Inv ops w s)
    (hG : G10 ops w s c = true) : Conforms cfg ops w s c :=
  (History.inv_step cfg ops w s hE hR hRI hRT c hI hG).1

/-- The eligibility scans of the implementation decide the abstract status, in every state reached inside the guard:
    an entry without a revert carries an applied operation, a reverted and not-yet-redone entry an undone one. -/
theorem eligibility_is_status (ops : Ops Tree Plan Backup H) (w : World Tree Plan Backup H) (s : Spec Tree H)
    (hI : History.Inv ops w s) (e : Entry H) (he : e ∈ w.entries) (hn : e.revertOf = none) (o : Op Tree H)
    (ho : find s e.id.root = some o) :
    (hasRevertOf w.entries e.id = false → o.applied = true) ∧
    (hasRevertOf w.entries e.id = true → hasRedoOf w.entries e.id = false → o.applied = false) :=
  ⟨fun h => hI.status.unrevApplied e he hn h o ho, fun h1 h2 => hI.status.revUndone e he hn h1 h2 o ho⟩

end generic

section witnesses
open HistoryTree

/-- the check's workspace: A = foo_bar→baz_qux, A' = foo→foo_bar (replacement contains the search), B = alpha→gamma -/
def t0 : HistoryTree.Tree :=
  [(b!"f1.txt", b!"foo_bar one\n"), (b!"f2.txt", b!"alpha x\n"), (b!"f3.txt", b!"use foo_bar and alpha\n")]

abbrev C := Cmd HistoryTree.H
def renA : C := .rename b!"foo_bar" b!"baz_qux"
def renA' : C := .rename b!"foo" b!"foo_bar"
def renB : C := .rename b!"alpha" b!"gamma"
def idA : EId HistoryTree.H := .plan (b!"foo_barbaz_qux", 0)
def idB : EId HistoryTree.H := .plan (b!"alphagamma", 0)

/-- the shape of the code the translator read: all four checks, the plan stored before the history entry, the revert id
    built on the entry id (if a check disappears or the id format changes, this stops checking) -/
theorem current_shape : Cfg.current = Cfg.full := by decide +kernel

/-- Undo of a non-latest operation whose reverse patch no longer applies to one of its files: the files whose
    patch applies are restored (f1), the other is left alone with a `.rej` next to it (f3), exit ≠ 0, no entry:
    a failed command that changed the tree. -/
theorem undo_older_without_prevalidation :
    (run .withoutPrevalidation ops (start t0) [renA, .tick, renB, .tick, .undo (.id idA)]).2
      = [.ok, .noop, .ok, .noop, .failed] ∧
    (run .withoutPrevalidation ops (start t0) [renA, .tick, renB, .tick, .undo (.id idA)]).1.entries.length = 2 ∧
    (run .withoutPrevalidation ops (start t0) [renA, .tick, renB, .tick, .undo (.id idA)]).1.tree
      = [(b!"f1.txt", b!"foo_bar one\n"), (b!"f2.txt", b!"gamma x\n"),
         (b!"f3.txt", b!"use baz_qux and gamma\n"), (b!"f3.txt.rej", b!"REJ")] := by decide +kernel

/-- A redo that is not "in place": B, undo B, then A' moves the offsets in f3; redoing B re-edits f2, then the
    stored plan fails validation on f3 and the command stops: exit ≠ 0, f2 changed, no entry (content edits are
    not rolled back — C04's defect, reached through a stale stored plan). -/
theorem redo_partial_without_prevalidation :
    (run .withoutPrevalidation ops (start t0) [renB, .tick, .undo .latest, .tick, renA', .tick, .redo (.id idB)]).2
      = [.ok, .noop, .ok, .noop, .ok, .noop, .failed] ∧
    (run .withoutPrevalidation ops (start t0) [renB, .tick, .undo .latest, .tick, renA', .tick, .redo (.id idB)]).1.entries.length = 3 ∧
    (run .withoutPrevalidation ops (start t0) [renB, .tick, .undo .latest, .tick, renA', .tick, .redo (.id idB)]).1.tree
      = [(b!"f1.txt", b!"foo_bar_bar one\n"), (b!"f2.txt", b!"gamma x\n"),
         (b!"f3.txt", b!"use foo_bar_bar and alpha\n")] := by decide +kernel

/-- WITH the undo pre-validation the same undo is refused and nothing at all is touched (no `.rej`, no partial
    restore); once B is undone, A can be undone. -/
theorem undo_older_prevalidated_rejected :
    (run .full ops (start t0) [renA, .tick, renB, .tick, .undo (.id idA)]).2 = [.ok, .noop, .ok, .noop, .rejected] ∧
    (run .full ops (start t0) [renA, .tick, renB, .tick, .undo (.id idA)]).1.tree
      = (run .full ops (start t0) [renA, .tick, renB, .tick]).1.tree ∧
    (run .full ops (start t0) [renA, .tick, renB, .tick, .undo (.id idA), .undo .latest, .tick, .undo (.id idA)]).2
      = [.ok, .noop, .ok, .noop, .rejected, .ok, .noop, .ok] ∧
    (run .full ops (start t0) [renA, .tick, renB, .tick, .undo (.id idA), .undo .latest, .tick, .undo (.id idA)]).1.tree
      = HistoryTree.normalize t0 := by decide +kernel

/-- WITH the redo pre-validation the stale redo is refused and f2 stays as it was. -/
theorem redo_partial_prevalidated_rejected :
    (run .full ops (start t0) [renB, .tick, .undo .latest, .tick, renA', .tick, .redo (.id idB)]).2
      = [.ok, .noop, .ok, .noop, .ok, .noop, .rejected] ∧
    (run .full ops (start t0) [renB, .tick, .undo .latest, .tick, renA', .tick, .redo (.id idB)]).1.tree
      = (run .full ops (start t0) [renB, .tick, .undo .latest, .tick, renA', .tick]).1.tree := by decide +kernel

/-- each pre-validation is needed for its own command -/
theorem undo_prevalidation_alone_keeps_redo_partial :
    (run { Cfg.withoutPrevalidation with undoPrevalidate := true } ops (start t0)
      [renB, .tick, .undo .latest, .tick, renA', .tick, .redo (.id idB)]).2
      = [.ok, .noop, .ok, .noop, .ok, .noop, .failed] := by decide +kernel

theorem redo_prevalidation_alone_keeps_undo_older :
    (run { Cfg.withoutPrevalidation with redoPrevalidate := true } ops (start t0)
      [renA, .tick, renB, .tick, .undo (.id idA)]).2 = [.ok, .noop, .ok, .noop, .failed] := by decide +kernel

/-- BEFORE c3d511b: two identical renames within one second — the second edits the tree AGAIN (`foo_bar_bar_bar`),
    then `add_entry` refuses the duplicate id: exit ≠ 0, tree changed, no entry. -/
theorem same_second_before_fix :
    (run .beforeFixes ops (start t0) [renA', renA']).2 = [.ok, .failed] ∧
    (run .beforeFixes ops (start t0) [renA', renA']).1.entries.length = 1 ∧
    get (run .beforeFixes ops (start t0) [renA']).1.tree b!"f1.txt" = some b!"foo_bar_bar one\n" ∧
    get (run .beforeFixes ops (start t0) [renA', renA']).1.tree b!"f1.txt" = some b!"foo_bar_bar_bar one\n" := by decide +kernel

/-- NOW: the second one is rejected and the whole world is as the first left it; one second apart both succeed. -/
theorem same_second_now_rejected :
    (run .withoutPrevalidation ops (start t0) [renA', renA']).2 = [.ok, .rejected] ∧
    (run .withoutPrevalidation ops (start t0) [renA', renA']).1.tree = (run .withoutPrevalidation ops (start t0) [renA']).1.tree ∧
    (run .withoutPrevalidation ops (start t0) [renA', renA']).1.entries = (run .withoutPrevalidation ops (start t0) [renA']).1.entries ∧
    (run .withoutPrevalidation ops (start t0) [renA', .tick, renA']).2 = [.ok, .noop, .ok] := by decide +kernel

/-- BEFORE c3d511b: the id hashes the CONCATENATION of search and replacement, so `ab→c` and `a→bc` in one second
    collide, and the second had already edited the tree when it found out. -/
theorem concat_collision_before_fix :
    (run .beforeFixes ops (start [(b!"g.txt", b!"ab a\n")]) [.rename b!"ab" b!"c", .rename b!"a" b!"bc"]).2 = [.ok, .failed] ∧
    (run .beforeFixes ops (start [(b!"g.txt", b!"ab a\n")]) [.rename b!"ab" b!"c", .rename b!"a" b!"bc"]).1.tree
      = [(b!"g.txt", b!"c bc\n")] := by decide +kernel

/-- NOW: they still collide (the hash input is unchanged), but the second command is refused untouched. -/
theorem concat_collision_now_rejected :
    (run .withoutPrevalidation ops (start [(b!"g.txt", b!"ab a\n")]) [.rename b!"ab" b!"c", .rename b!"a" b!"bc"]).2 = [.ok, .rejected] ∧
    (run .withoutPrevalidation ops (start [(b!"g.txt", b!"ab a\n")]) [.rename b!"ab" b!"c", .rename b!"a" b!"bc"]).1.tree
      = [(b!"g.txt", b!"c a\n")] := by decide +kernel

/-- BEFORE 07a4584: rename, undo, redo, redo — the second redo was attempted again because `redo_renaming` only looked
    for a revert entry; with a replacement that contains the search term the stored plan still validated, so it was
    applied a second time and recorded as a second redo. -/
theorem redo_twice_before_fix :
    (run .beforeFixes ops (start t0) [renA', .tick, .undo .latest, .tick, .redo .latest, .tick, .redo .latest]).2
      = [.ok, .noop, .ok, .noop, .ok, .noop, .ok] ∧
    (run .beforeFixes ops (start t0) [renA', .tick, .undo .latest, .tick, .redo .latest, .tick, .redo .latest]).1.entries.length = 4 ∧
    get (run .beforeFixes ops (start t0) [renA', .tick, .undo .latest, .tick, .redo .latest, .tick, .redo .latest]).1.tree b!"f1.txt"
      = some b!"foo_bar_bar_bar one\n" := by decide +kernel

/-- NOW: the second redo is rejected, the tree stays as the first redo left it; undoing the redo entry and redoing
    THAT still works (the chain `X, redo-X-…, redo-redo-X-…-…`). -/
theorem redo_twice_now_rejected :
    (run .withoutPrevalidation ops (start t0) [renA', .tick, .undo .latest, .tick, .redo .latest, .tick, .redo .latest]).2
      = [.ok, .noop, .ok, .noop, .ok, .noop, .rejected] ∧
    get (run .withoutPrevalidation ops (start t0) [renA', .tick, .undo .latest, .tick, .redo .latest, .tick, .redo .latest]).1.tree b!"f1.txt"
      = some b!"foo_bar_bar one\n" ∧
    (run .withoutPrevalidation ops (start t0) [renA', .tick, .undo .latest, .tick, .redo .latest, .tick, .undo .latest, .tick,
      .redo .latest, .tick, .redo .latest]).2
      = [.ok, .noop, .ok, .noop, .ok, .noop, .ok, .noop, .ok, .noop, .rejected] := by decide +kernel

/-- BEFORE both: two redos of one id within a second — the plan was applied, then `add_entry` rejected
    `redo-<id>-<sec>`. -/
theorem redo_id_collision_before_fix :
    (run .beforeFixes ops (start t0) [renA', .tick, .undo .latest, .tick, .redo .latest, .redo .latest]).2
      = [.ok, .noop, .ok, .noop, .ok, .failed] ∧
    get (run .beforeFixes ops (start t0) [renA', .tick, .undo .latest, .tick, .redo .latest, .redo .latest]).1.tree b!"f1.txt"
      = some b!"foo_bar_bar_bar one\n" := by decide +kernel

/-- NOW: rejected, tree unchanged. -/
theorem redo_id_collision_now_rejected :
    (run .withoutPrevalidation ops (start t0) [renA', .tick, .undo .latest, .tick, .redo .latest, .redo .latest]).2
      = [.ok, .noop, .ok, .noop, .ok, .rejected] ∧
    get (run .withoutPrevalidation ops (start t0) [renA', .tick, .undo .latest, .tick, .redo .latest, .redo .latest]).1.tree b!"f1.txt"
      = some b!"foo_bar_bar one\n" := by decide +kernel

/-- Each repair is needed on its own: the early id check alone does not stop a repeated redo in another second … -/
theorem early_check_alone_keeps_redo_twice :
    (run { Cfg.beforeFixes with earlyDupCheck := true } ops (start t0)
      [renA', .tick, .undo .latest, .tick, .redo .latest, .tick, .redo .latest]).2
      = [.ok, .noop, .ok, .noop, .ok, .noop, .ok] := by decide +kernel

/-- … and "redo only once" alone does not stop the same-second rename. -/
theorem redo_once_alone_keeps_same_second :
    (run { Cfg.beforeFixes with redoOnce := true } ops (start t0) [renA', renA']).2 = [.ok, .failed] := by decide +kernel

/-! ### the directory instance (workspace W5 of the check) -/

/-- a directory whose name contains the term, holding a file that is edited but not renamed, next to a top-level edited
    file that sorts before it -/
def t5 : HistoryTree.Tree :=
  [(b!"a.txt", b!"foo_bar top\n"), (b!"foo_bar_dir/inner.txt", b!"one foo_bar x\n"), (b!"z.txt", b!"alpha z\n")]

def renS : C := .rename b!"one" b!"three"

/-- A edits both files and renames the directory; undo brings everything back, directory included. -/
theorem dir_rename_undo_roundtrip :
    (run .full HistoryTreeDir.ops (HistoryTreeDir.start t5) [renA]).1.tree
      = [(b!"a.txt", b!"baz_qux top\n"), (b!"baz_qux_dir/inner.txt", b!"one baz_qux x\n"), (b!"z.txt", b!"alpha z\n")] ∧
    (run .full HistoryTreeDir.ops (HistoryTreeDir.start t5) [renA, .tick, .undo .latest]).2 = [.ok, .noop, .ok] ∧
    (run .full HistoryTreeDir.ops (HistoryTreeDir.start t5) [renA, .tick, .undo .latest]).1.tree = HistoryTree.normalize t5 := by
  decide +kernel

/-- A, undo, then S shifts A's match in the in-directory file: the redo of A is refused with nothing touched.  Without
    the hunk-by-hunk pre-validation (e.g. a pre-check that only compares the checksums the undo recorded, which do not
    cover the in-directory file: seeded/C10d) the top-level file is re-edited before the in-directory file fails. -/
theorem dir_stale_redo_refused :
    (run .full HistoryTreeDir.ops (HistoryTreeDir.start t5) [renA, .tick, .undo .latest, .tick, renS, .tick, .redo (.id idA)]).2
      = [.ok, .noop, .ok, .noop, .ok, .noop, .rejected] ∧
    (run .full HistoryTreeDir.ops (HistoryTreeDir.start t5) [renA, .tick, .undo .latest, .tick, renS, .tick, .redo (.id idA)]).1.tree
      = [(b!"a.txt", b!"foo_bar top\n"), (b!"foo_bar_dir/inner.txt", b!"three foo_bar x\n"), (b!"z.txt", b!"alpha z\n")] ∧
    (run { Cfg.full with redoPrevalidate := false } HistoryTreeDir.ops (HistoryTreeDir.start t5)
      [renA, .tick, .undo .latest, .tick, renS, .tick, .redo (.id idA)]).2
      = [.ok, .noop, .ok, .noop, .ok, .noop, .failed] ∧
    (run { Cfg.full with redoPrevalidate := false } HistoryTreeDir.ops (HistoryTreeDir.start t5)
      [renA, .tick, .undo .latest, .tick, renS, .tick, .redo (.id idA)]).1.tree
      = [(b!"a.txt", b!"baz_qux top\n"), (b!"foo_bar_dir/inner.txt", b!"three foo_bar x\n"), (b!"z.txt", b!"alpha z\n")] := by
  decide +kernel

/-- an undo of A while a later S still holds the in-directory file is refused as well, and works once S is undone -/
theorem dir_undo_older_refused :
    (run .full HistoryTreeDir.ops (HistoryTreeDir.start t5) [renA, .tick, renS, .tick, .undo (.id idA), .undo .latest, .tick, .undo (.id idA)]).2
      = [.ok, .noop, .ok, .noop, .rejected, .ok, .noop, .ok] ∧
    (run .full HistoryTreeDir.ops (HistoryTreeDir.start t5) [renA, .tick, renS, .tick, .undo (.id idA), .undo .latest, .tick, .undo (.id idA)]).1.tree
      = HistoryTree.normalize t5 := by
  decide +kernel

/-- The flat-file tree side satisfies the hypothesis of the refinement theorem … -/
theorem roundtrip_concrete : RoundTrip HistoryTree.ops := HistoryTree.roundTrip

/-- … so for it the refinement holds outright for every guarded sequence. -/
theorem refines_spec_concrete (cfg : Cfg) (hE : cfg.earlyDupCheck = true) (hR : cfg.redoOnce = true)
    (hRI : cfg.revertIdOfRoot = false) (t : HistoryTree.Tree) (clock : Nat) (cs : List C)
    (hG : Guarded cfg ops (init t clock) [] cs = true) : AllConform cfg ops (init t clock) [] cs :=
  refines_spec_partial cfg hE hR hRI ops HistoryTree.roundTrip t clock cs hG

/-- … in particular for the code as it is. -/
theorem refines_spec_current (t : HistoryTree.Tree) (clock : Nat) (cs : List C)
    (hG : Guarded .current ops (init t clock) [] cs = true) : AllConform .current ops (init t clock) [] cs := by
  rw [current_shape] at hG ⊢
  exact refines_spec_concrete .full rfl rfl rfl t clock cs hG

/-- … and for the code as it is an undo or a redo that does not succeed changes nothing, after any command sequence
    from an empty history and under any clock. -/
theorem undo_redo_atomic_current (t : HistoryTree.Tree) (clock : Nat) (cs : List C) (tg : Target HistoryTree.H) :
    ((step .current ops (run .current ops (init t clock) cs).1 (.undo tg)).2 ≠ .ok →
      (step .current ops (run .current ops (init t clock) cs).1 (.undo tg)).1 = (run .current ops (init t clock) cs).1) ∧
    ((step .current ops (run .current ops (init t clock) cs).1 (.redo tg)).2 ≠ .ok →
      (step .current ops (run .current ops (init t clock) cs).1 (.redo tg)).1 = (run .current ops (init t clock) cs).1) := by
  rw [current_shape]
  exact ⟨undo_atomic_all_runs .full rfl rfl ops t clock cs tg, redo_atomic .full rfl rfl ops _ tg⟩

/-- A seeded variant (seeded/C10c): the revert id built on the ROOT plan id.  rename, undo, redo, undo latest within ONE
    second: the last undo addresses `redo-X-<sec>`, restores the tree, and computes `revert-X-<sec>` — which the first undo
    already took: exit ≠ 0 after the tree was changed, no entry.  With the id built on the entry id all four succeed. -/
theorem revert_id_of_root_collides :
    (run { Cfg.full with revertIdOfRoot := true } ops (start t0) [renA', .undo .latest, .redo .latest, .undo .latest]).2
      = [.ok, .ok, .ok, .failed] ∧
    (run { Cfg.full with revertIdOfRoot := true } ops (start t0) [renA', .undo .latest, .redo .latest, .undo .latest]).1.tree
      = HistoryTree.normalize t0 ∧
    (run { Cfg.full with revertIdOfRoot := true } ops (start t0) [renA', .undo .latest, .redo .latest, .undo .latest]).1.entries.length = 3 ∧
    (run .full ops (start t0) [renA', .undo .latest, .redo .latest, .undo .latest]).2 = [.ok, .ok, .ok, .ok] := by decide +kernel

/-- Non-vacuity of the guard: renames of three different plans, undo and redo by `latest` and by id, one second apart
    and within one second, repeated redos, duplicates — all inside `G10` … -/
example : Guarded .withoutPrevalidation ops (start t0) []
    [renA, renA, .tick, renB, .tick, .undo .latest, .tick, .redo .latest, .redo .latest, .tick, .redo .latest, .tick,
     .undo .latest, .tick, .undo (.id idA), .tick, .redo (.id idA), .tick, .redo (.id idA),
     .redo (.id (.plan (b!"nope", 7))), .undo (.id (.plan (b!"nope", 7))), renA', renB] = true := by decide +kernel

/-- … the sequences of the repaired defects are inside it … -/
example : Guarded .withoutPrevalidation ops (start t0) [] [renA', renA'] = true ∧
    Guarded .withoutPrevalidation ops (start t0) [] [renA', .tick, .undo .latest, .tick, .redo .latest, .tick, .redo .latest, .redo .latest] = true := by
  decide +kernel

/-- … while the two witnesses without pre-validation leave it exactly at the offending command. -/
example : Guarded .withoutPrevalidation ops (start t0) [] [renA, .tick, renB, .tick, .undo (.id idA)] = false ∧
    Guarded .withoutPrevalidation ops (start t0) [] [renA, .tick, renB, .tick] = true := by decide +kernel
example : Guarded .withoutPrevalidation ops (start t0) [] [renB, .tick, .undo .latest, .tick, renA', .tick, .redo (.id idB)] = false ∧
    Guarded .withoutPrevalidation ops (start t0) [] [renB, .tick, .undo .latest, .tick, renA', .tick] = true := by decide +kernel

/-- the same guard statements hold with the pre-validations: the guard does not depend on them -/
example : Guarded .full ops (start t0) [] [renA, .tick, renB, .tick, .undo (.id idA)] = false ∧
    Guarded .full ops (start t0) [] [renA, renA, .tick, renB, .tick, .undo .latest, .tick, .redo .latest, .redo .latest] = true := by
  decide +kernel

/-- Without the pre-validations the full statement is false: the undo-older witness is a counterexample for the
    flat-file tree side. -/
theorem C10_full_false_without_prevalidation : ¬ C10_full .withoutPrevalidation := by
  intro h
  have h2 := h HistoryTree.Tree HistoryTree.Plan HistoryTree.Backup HistoryTree.H ops HistoryTree.roundTrip
    (HistoryTree.normalize t0) 0 [renA, .tick, renB, .tick, .undo (.id idA)]
  have hc := History.conforms_ok_or_unchanged _ _ _ _ _ h2.2.2.2.2.1
  revert hc
  decide +kernel

/-- Non-vacuity of the eligibility theorems: undo and redo do succeed in the model, and are refused when they should. -/
example : (step .withoutPrevalidation ops (run .withoutPrevalidation ops (start t0) [renA, .tick]).1 (.undo .latest)).2 = .ok := by decide +kernel
example : (step .withoutPrevalidation ops (run .withoutPrevalidation ops (start t0) [renA, .tick, .undo .latest, .tick]).1 (.redo .latest)).2 = .ok := by decide +kernel
example : (step .withoutPrevalidation ops (run .withoutPrevalidation ops (start t0) [renA]).1 (.redo .latest)).2 = .rejected := by decide +kernel
example : hasRedoOf (run .withoutPrevalidation ops (start t0) [renA, .tick, .undo .latest, .tick, .redo .latest]).1.entries idA = true := by decide +kernel

end witnesses

end C10
