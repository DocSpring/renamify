import RModel.Model.Matcher
import RModel.Model.LinePipeline
import RModel.Lemmas.Matcher
import RModel.Lemmas.LineMatch
/-
  INTERNAL CONSISTENCY of the model: `pattern.rs` (`build_pattern`, `find_matches`, `is_boundary`) is modelled twice, by hand,
  for two groups of properties — `Matcher.findMatches` (C03 / C15 / C14: whole files, offsets, lines) and
  `LinePipeline.exactMatches` (C06 / C07: one line, keys of the variant table).  Each is compared with the real code on its
  own request stream; this file proves that they are THE SAME FUNCTION wherever both are defined (a non-empty key list), so a
  theorem about one is a theorem about the other and a divergence of the two hand-written texts cannot hide behind two
  separately passing correspondences.

  The two even ORDER equal-length alternatives differently (`insertByLen` puts a key behind its equals, `insertAlt` in front):
  irrelevant, because two different keys that both match at one position are prefixes of one another and therefore have
  different (escaped) lengths — which is also why the regex's leftmost-first alternation is leftmost-longest.
-/
namespace ExactPass
open B

theorem escLen_lt_of_prefix {a b : Bytes} (hp : a <+: b) (hne : a.length < b.length) :
    LinePipeline.escLen a < LinePipeline.escLen b := by
  obtain ⟨s, rfl⟩ := hp
  have hs : s ≠ [] := fun h0 => by rw [h0, List.append_nil] at hne; exact Nat.lt_irrefl _ hne
  rw [LinePipeline.escLen_append]
  exact Nat.lt_add_of_pos_right (LinePipeline.escLen_pos hs)

theorem firstAlt_agree (ks : List Bytes) (rest : Bytes) :
    LinePipeline.firstAlt (LinePipeline.sortKeys ks) rest = Matcher.firstAlt (Matcher.orderAlts ks) rest := by
  cases h2 : Matcher.firstAlt (Matcher.orderAlts ks) rest with
  | none =>
    refine List.find?_eq_none.mpr fun k hk hp => ?_
    exact List.find?_eq_none.mp h2 k (Matcher.mem_orderAlts.mpr (LinePipeline.mem_sortKeys.mp hk)) hp
  | some a =>
    obtain ⟨ham, hane, hap⟩ := Matcher.firstAlt_some h2
    obtain ⟨k, h1⟩ := Option.isSome_iff_exists.mp (LinePipeline.firstAlt_isSome (Matcher.mem_orderAlts.mp ham) hane hap)
    obtain ⟨hk, hkne, hkp, hmax⟩ := LinePipeline.firstAlt_spec h1
    -- both keys are prefixes of `rest`; `a` is the longest such, and a longer one would have the larger escaped length
    have h3 : k.length ≤ a.length := Matcher.firstAlt_longest h2 hk hkne hkp
    have hka : k <+: a := List.prefix_of_prefix_length_le hkp hap h3
    have h4 : a.length ≤ k.length := Nat.le_of_not_lt fun hlt =>
      Nat.not_le_of_lt (escLen_lt_of_prefix hka hlt) (hmax a (Matcher.mem_orderAlts.mp ham) hane hap)
    rw [h1, hka.eq_of_length (Nat.le_antisymm h3 h4)]

theorem findIter_eq_scan (ks : List Bytes) : ∀ (content : Bytes) (pos skip : Nat),
    (LinePipeline.findIter (LinePipeline.sortKeys ks) pos skip content).map (fun m => (m.1, m.1 + m.2.length)) =
      Matcher.scan (Matcher.orderAlts ks) content pos skip
  | [], _, _ => by rw [LinePipeline.findIter, Matcher.scan, List.map_nil]
  | _ :: cs, pos, skip + 1 => by
    rw [LinePipeline.findIter, Matcher.scan]
    exact findIter_eq_scan ks cs (pos + 1) skip
  | c :: cs, pos, 0 => by
    rw [LinePipeline.findIter, Matcher.scan, firstAlt_agree]
    cases Matcher.firstAlt (Matcher.orderAlts ks) (c :: cs) with
    | none => exact findIter_eq_scan ks cs (pos + 1) 0
    | some a => exact congrArg _ (findIter_eq_scan ks cs (pos + 1) (a.length - 1))

theorem isWhitespace_eq (c : UInt8) : LinePipeline.isWhitespace c = Matcher.isWs c :=
  rfl

theorem ne_iff_toNat (c : UInt8) (n : Nat) (hn : n < 256) : (c != UInt8.ofNat n) = (c.toNat != n) := by
  rw [Bool.eq_iff_iff, bne_iff_ne, bne_iff_ne, ne_eq, ne_eq, ← UInt8.toNat_inj]
  simp [Nat.mod_eq_of_lt hn]

theorem spaceSide_eq (c : UInt8) : LinePipeline.spaceSide c = Matcher.spaceSide c := by
  have h45 : (c != 45) = (c.toNat != 45) := ne_iff_toNat c 45 (by omega)
  have h95 : (c != 95) = (c.toNat != 95) := ne_iff_toNat c 95 (by omega)
  rw [LinePipeline.spaceSide, Matcher.spaceSide, isWhitespace_eq, h45, h95]
  rfl

theorem contains_space_eq (m : Bytes) : contains m 32 = m.any (fun b => b.toNat == 32) := by
  unfold contains
  congr 1
  funext b
  rw [Bool.eq_iff_iff, beq_iff_eq, beq_iff_eq, ← UInt8.toNat_inj]; rfl

/-- one side of the test: the three-way `if` of the one model is the disjunction of the other -/
theorem side_eq (sp al y : Bool) (c : UInt8) :
    (if sp = true then some (Matcher.spaceSide c) else if (!al) = true then some true else some y) =
      some (if sp = true then LinePipeline.spaceSide c else !al || y) := by
  rw [spaceSide_eq]
  cases sp <;> cases al <;> rfl

/-- on every span the regex can report (`start < stop ≤ length`) the transliterated test does not panic, and it is the test
    of the line model -/
theorem isBoundary_agree (bytes : Bytes) (s e : Nat) (h1 : s < e) (h2 : e ≤ bytes.length) :
    Matcher.isBoundary bytes s e = some (LinePipeline.isBoundary bytes s e) := by
  have hcur : bytes[s]? = some bytes[s] := List.getElem?_eq_getElem (by omega)
  have hpe : bytes[e - 1]? = some bytes[e - 1] := List.getElem?_eq_getElem (by omega)
  have he0 : 0 < e := by omega
  unfold Matcher.isBoundary LinePipeline.isBoundary
  rw [if_neg (not_not_intro ⟨Nat.le_of_lt h1, h2⟩)]
  simp only [← contains_space_eq, hcur, hpe, he0, decide_true, Bool.and_true, Option.map_some, Option.getD_some, side_eq]
  by_cases h0 : s = 0
  · rw [if_pos h0, if_pos h0]
    cases bytes[e]? <;> rfl
  · rw [if_neg h0, if_neg h0, List.getElem?_eq_getElem (show s - 1 < bytes.length by omega)]
    cases bytes[e]? <;> rfl

/-- THE TWO MODELS OF THE EXACT PASS AGREE (on the spans, for a non-empty list of keys) -/
theorem exactMatches_spans (content : Bytes) (ks : List Bytes) (hks : ks ≠ []) :
    (LinePipeline.exactMatches content ks).map (fun m => (m.1, m.1 + m.2.length)) =
      (Matcher.findMatches ks content).map (fun m => (m.start, m.stop)) := by
  have hcomp : ((fun m : Matcher.Match => (m.start, m.stop)) ∘ Matcher.mkMatch ks content) = id := rfl
  rw [LinePipeline.exactMatches, Matcher.findMatches, List.isEmpty_eq_false_iff.mpr hks, if_neg Bool.false_ne_true,
    List.map_map, hcomp, List.map_id, ← findIter_eq_scan ks content 0 0, List.filter_map]
  refine congrArg _ (List.filter_congr fun m hm => ?_)
  obtain ⟨h1, h2, _⟩ := Matcher.scan_spec ks content _ (findIter_eq_scan ks content 0 0 ▸ List.mem_map_of_mem hm)
  rw [Function.comp_apply, isBoundary_agree content _ _ h1 h2]
  cases LinePipeline.isBoundary content m.1 (m.1 + m.2.length) <;> rfl

theorem exactMatches_eq_findMatches (content : Bytes) (ks : List Bytes) (hks : ks ≠ []) (_ : ∀ k ∈ ks, k ≠ []) :
    (LinePipeline.exactMatches content ks).map (fun m => (m.1, m.1 + m.2.length)) =
      (Matcher.findMatches ks content).map (fun m => (m.start, m.stop)) :=
  exactMatches_spans content ks hks

end ExactPass
