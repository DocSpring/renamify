import RModel.Model.Scan
/-
  Insertion sort on lists with a Boolean order: it yields a sorted permutation, and two sorted permutations of
  one another are equal when the order is antisymmetric on their elements — hence sorting is invariant under
  permutation of the input.  Core only (`List.Perm`, `List.Pairwise`, `List.Perm.eq_of_pairwise`).
-/

namespace SortPerm
open Scan

variable {α : Type}

structure TotalPreorder (le : α → α → Bool) : Prop where
  total : ∀ a b, le a b = true ∨ le b a = true
  trans : ∀ a b c, le a b = true → le b c = true → le a c = true

theorem insertBy_perm (le : α → α → Bool) (x : α) (l : List α) : (insertBy le x l).Perm (x :: l) := by
  induction l with
  | nil => exact List.Perm.refl _
  | cons y ys ih =>
    unfold insertBy
    split
    · exact List.Perm.refl _
    · exact (List.Perm.cons y ih).trans (List.Perm.swap x y ys)

theorem sortBy_perm (le : α → α → Bool) (l : List α) : (sortBy le l).Perm l := by
  induction l with
  | nil => exact List.Perm.refl _
  | cons x xs ih => exact (insertBy_perm le x _).trans (List.Perm.cons x ih)

theorem mem_insertBy (le : α → α → Bool) (x z : α) (l : List α) : z ∈ insertBy le x l ↔ z = x ∨ z ∈ l := by
  rw [(insertBy_perm le x l).mem_iff, List.mem_cons]

theorem insertBy_sorted {le : α → α → Bool} (ord : TotalPreorder le) (x : α) (l : List α)
    (h : l.Pairwise (fun a b => le a b = true)) : (insertBy le x l).Pairwise (fun a b => le a b = true) := by
  induction l with
  | nil => exact List.pairwise_singleton _ _
  | cons y ys ih =>
    have hy := List.pairwise_cons.mp h
    unfold insertBy
    split
    · rename_i hxy
      exact List.pairwise_cons.mpr ⟨List.forall_mem_cons.mpr ⟨hxy, fun z hz => ord.trans _ _ _ hxy (hy.1 z hz)⟩, h⟩
    · rename_i hxy
      refine List.pairwise_cons.mpr ⟨fun z hz => ?_, ih hy.2⟩
      rcases (mem_insertBy le x z ys).mp hz with rfl | hz
      · exact (ord.total _ _).resolve_left hxy
      · exact hy.1 z hz

theorem sortBy_sorted {le : α → α → Bool} (ord : TotalPreorder le) (l : List α) :
    (sortBy le l).Pairwise (fun a b => le a b = true) := by
  induction l with
  | nil => exact List.Pairwise.nil
  | cons x xs ih => exact insertBy_sorted ord x _ ih

theorem sortBy_perm_invariant {le : α → α → Bool} (ord : TotalPreorder le) (l l' : List α) (hp : l'.Perm l)
    (anti : ∀ a b, a ∈ l → b ∈ l → le a b = true → le b a = true → a = b) :
    sortBy le l' = sortBy le l :=
  List.Perm.eq_of_pairwise (le := fun a b => le a b = true)
    (fun a b ha hb => anti a b (hp.subset ((sortBy_perm le l').subset ha)) ((sortBy_perm le l).subset hb))
    (sortBy_sorted ord l') (sortBy_sorted ord l) ((sortBy_perm le l').trans (hp.trans (sortBy_perm le l).symm))

theorem insertBy_filter_class (le : α → α → Bool) (p : α → Bool)
    (tie : ∀ a b, p a = true → p b = true → le a b = true) (x : α) (l : List α) :
    (insertBy le x l).filter p = (x :: l).filter p := by
  induction l with
  | nil => rfl
  | cons y ys ih =>
    unfold insertBy
    split
    · rfl
    · rename_i hxy
      rw [List.filter_cons, ih]
      cases hx : p x <;> cases hy : p y
      case true.true => exact absurd (tie x y hx hy) hxy
      all_goals simp [hx, hy]

/-- stability on ties -/
theorem sortBy_filter_class (le : α → α → Bool) (p : α → Bool)
    (tie : ∀ a b, p a = true → p b = true → le a b = true) (l : List α) :
    (sortBy le l).filter p = l.filter p := by
  induction l with
  | nil => rfl
  | cons x xs ih =>
    simp only [sortBy]
    rw [insertBy_filter_class le p tie, List.filter_cons, List.filter_cons, ih]

end SortPerm
