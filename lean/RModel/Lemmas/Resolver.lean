import RModel.Model.Resolver
import RModel.Lemmas.LineConstraints
import RModel.Lemmas.ListFacts
/-
  C06, clause 3: the context heuristics of the resolver (Model/Resolver.lean) pick from the list they are given
  (level 1 by the reflective guard check `Block.wellGuarded` on the decision trees parsed from `languages/*.rs`) —
  the contract `HeurOk` that `resolve_mem` asks of its parameter — and facts about the file-context level:
  every answer for every `HashMap` iteration order lies in `fileChoices`, and whether the level answers at all does not
  depend on the order; the cross-file level is irrelevant when `project_root` is `None`.
-/
open B CaseModel

namespace Resolver

theorem Cond.facts_sound {ctx : Bytes} {possible : List Style} {c : Cond} (h : c.eval ctx possible = true) :
    ∀ s ∈ c.facts, s ∈ possible := by
  induction c with
  | poss x =>
    intro s hs
    cases List.mem_singleton.mp hs
    exact List.contains_iff_mem.mp h
  | and a b iha ihb =>
    rw [Cond.eval, Bool.and_eq_true] at h
    exact fun s hs => (List.mem_append.mp hs).elim (iha h.1 s) (ihb h.2 s)
  | _ => exact fun _ hs => absurd hs List.not_mem_nil

/-- THE soundness of the guard check: a well-guarded decision tree only answers possible styles — for every context -/
theorem Block.eval_mem {ctx : Bytes} {possible : List Style} : ∀ {b : Block} {known : List Style} {s : Style},
    b.wellGuarded known = true → (∀ x ∈ known, x ∈ possible) → b.eval ctx possible = some s → s ∈ possible
  | .none, _, _, _, _, h => by simp [Block.eval] at h
  | .ret x, known, s, hw, hk, h => by
    simp only [Block.eval, Option.some.injEq] at h
    subst h
    exact hk _ (by simpa [Block.wellGuarded] using hw)
  | .ite c t e, known, s, hw, hk, h => by
    simp only [Block.wellGuarded, Bool.and_eq_true] at hw
    simp only [Block.eval] at h
    split at h
    · rename_i hc
      refine Block.eval_mem hw.1 ?_ h
      intro x hx
      rcases List.mem_append.mp hx with hx | hx
      · exact Cond.facts_sound hc x hx
      · exact hk x hx
    · exact Block.eval_mem hw.2 hk h

/-- the decidable fact about the generated tables that level 1 rests on -/
def RulesGuarded : Prop := ∀ r ∈ Gen.languageRules, r.2.wellGuarded [] = true

instance : Decidable RulesGuarded := by unfold RulesGuarded; infer_instance

theorem rulesOfExt_guarded (hg : RulesGuarded) {e : Bytes} {rules : Block} (h : rulesOfExt e = some rules) :
    rules.wellGuarded [] = true := by
  unfold rulesOfExt at h
  split at h
  · rename_i row _
    have hm := List.lookup_eq_some_iff.mp h
    obtain ⟨l₁, l₂, hl, _⟩ := hm
    exact hg (row.2, rules) (by rw [hl]; simp)
  · cases h

theorem langSuggest_mem (hg : RulesGuarded) {path pre : Bytes} {possible : List Style} {s : Style}
    (h : langSuggest path pre possible = some s) : s ∈ possible := by
  unfold langSuggest at h
  split at h
  · cases h
  · split at h
    · cases h
    · rename_i rules hr
      exact Block.eval_mem (rulesOfExt_guarded hg hr) (fun _ hx => by cases hx) h

theorem mem_allStyles (s : Style) : s ∈ Gen.allStyles := by cases s <;> decide

theorem mem_keysOf {ord tags : List Style} {s : Style} : s ∈ keysOf ord tags ↔ tags.count s > 0 := by
  unfold keysOf
  simp only [List.mem_filter, List.mem_append, decide_eq_true_eq, Bool.not_eq_true', and_iff_right_iff_imp]
  intro _
  by_cases h : s ∈ ord
  · exact Or.inl h
  · exact Or.inr ⟨mem_allStyles s, by simpa using h⟩

theorem lastMax_none {f : Style → Nat} {l : List Style} (h : lastMax f l = none) : l = [] := by
  cases l with
  | nil => rfl
  | cons a r =>
    unfold lastMax at h
    split at h <;> (try split at h) <;> simp at h

theorem lastMax_spec {f : Style → Nat} : ∀ {l : List Style} {d : Style}, lastMax f l = some d →
    d ∈ l ∧ ∀ k ∈ l, f k ≤ f d
  | s :: rest, d, h => by
    rw [lastMax] at h
    split at h
    · next hn =>
      cases h
      cases lastMax_none hn
      exact ⟨List.mem_cons_self, fun k hk => List.mem_singleton.mp hk ▸ Nat.le_refl _⟩
    · next m hm =>
      obtain ⟨hmem, hmax⟩ := lastMax_spec hm
      split at h <;> cases h
      · next hgt =>
        exact ⟨List.mem_cons_self, List.forall_mem_cons.mpr
          ⟨Nat.le_refl _, fun k hk => Nat.le_of_lt (Nat.lt_of_le_of_lt (hmax k hk) hgt)⟩⟩
      · next hgt => exact ⟨List.mem_cons_of_mem _ hmem, List.forall_mem_cons.mpr ⟨Nat.le_of_not_gt hgt, hmax⟩⟩

theorem mem_insertDesc {f : Style → Nat} {s t : Style} : ∀ {l : List Style}, t ∈ insertDesc f s l ↔ t = s ∨ t ∈ l
  | [] => by simp [insertDesc]
  | x :: xs => by
    unfold insertDesc
    split
    · simp
    · simp only [List.mem_cons, mem_insertDesc (l := xs), or_left_comm]

theorem mem_sortDesc {f : Style → Nat} {t : Style} : ∀ {l : List Style}, t ∈ sortDesc f l ↔ t ∈ l
  | [] => by simp [sortDesc]
  | x :: xs => by
    have ih := mem_sortDesc (f := f) (t := t) (l := xs)
    unfold sortDesc at ih ⊢
    simp only [List.foldr_cons, mem_insertDesc, List.mem_cons, ih]

theorem insertDesc_sorted {f : Style → Nat} {s : Style} : ∀ {l : List Style},
    l.Pairwise (fun a b => f b ≤ f a) → (insertDesc f s l).Pairwise (fun a b => f b ≤ f a)
  | [], _ => by simp [insertDesc]
  | x :: xs, h => by
    obtain ⟨hx, hxs⟩ := List.pairwise_cons.mp h
    rw [insertDesc]
    split
    · next hle =>
      exact List.pairwise_cons.mpr ⟨List.forall_mem_cons.mpr ⟨hle, fun b hb => Nat.le_trans (hx b hb) hle⟩, h⟩
    · next hgt =>
      refine List.pairwise_cons.mpr ⟨fun b hb => ?_, insertDesc_sorted hxs⟩
      rcases mem_insertDesc.mp hb with rfl | hb
      · exact Nat.le_of_not_ge hgt
      · exact hx b hb

theorem sortDesc_sorted {f : Style → Nat} : ∀ (l : List Style), (sortDesc f l).Pairwise (fun a b => f b ≤ f a)
  | [] => by simp [sortDesc]
  | x :: xs => by
    have ih := sortDesc_sorted (f := f) xs
    unfold sortDesc at ih ⊢
    simp only [List.foldr_cons]
    exact insertDesc_sorted ih

/-- `fileChoices`: neither gate of the level closes, and the style is a possible one that occurs in the file, with the
    highest count among those -/
theorem mem_fileChoicesTags {tags possible : List Style} {s : Style} :
    s ∈ fileChoicesTags tags possible ↔
      ¬ (tags.length < minIdentifiers ∨ ∀ t, mediumDen * tags.count t < mediumNum * tags.length) ∧
      s ∈ possible ∧ tags.count s > 0 ∧ ∀ t ∈ possible, tags.count t > 0 → tags.count t ≤ tags.count s := by
  have hgate : (decide (tags.length < minIdentifiers) ||
      Gen.allStyles.all fun s => decide (mediumDen * tags.count s < mediumNum * tags.length)) = true ↔
      (tags.length < minIdentifiers ∨ ∀ t, mediumDen * tags.count t < mediumNum * tags.length) := by
    rw [Bool.or_eq_true, decide_eq_true_eq, List.all_eq_true]
    exact or_congr_right ⟨fun h t => of_decide_eq_true (h t (mem_allStyles t)), fun h t _ => decide_eq_true (h t)⟩
  unfold fileChoicesTags
  simp only []
  split
  · next hg => exact ⟨nofun, fun h => absurd (hgate.mp hg) h.1⟩
  · next hg =>
    simp only [List.mem_filter, mem_allStyles, true_and, Bool.and_eq_true, decide_eq_true_eq, List.contains_iff_mem,
      List.all_eq_true, and_imp]
    exact ⟨fun ⟨⟨h1, h2⟩, h3⟩ => ⟨mt hgate.mpr hg, h1, h2, h3⟩, fun ⟨_, h1, h2, h3⟩ => ⟨⟨h1, h2⟩, h3⟩⟩

/-- the two gates of the level: too few counted identifiers, or no style that reaches the medium-confidence ratio -/
theorem fileChoicesTags_of_gate {tags : List Style} (possible : List Style)
    (h : tags.length < minIdentifiers ∨ ∀ s, mediumDen * tags.count s < mediumNum * tags.length) :
    fileChoicesTags tags possible = [] :=
  List.eq_nil_iff_forall_not_mem.mpr fun _ hs => (mem_fileChoicesTags.mp hs).1 h

theorem fileChoicesTags_of_no_candidate {tags possible : List Style}
    (h : ∀ t ∈ possible, ¬ tags.count t > 0) : fileChoicesTags tags possible = [] :=
  List.eq_nil_iff_forall_not_mem.mpr fun s hs => h s (mem_fileChoicesTags.mp hs).2.1 (mem_fileChoicesTags.mp hs).2.2.1

def Answers (tags possible : List Style) : Option Style → Prop
  | some s => s ∈ fileChoicesTags tags possible
  | none => fileChoicesTags tags possible = []

/-- the file-context level against `fileChoices`, for every iteration order -/
theorem fileSuggestTags_spec (ord tags possible : List Style) :
    Answers tags possible (fileSuggestTags ord tags possible) := by
  unfold fileSuggestTags
  simp only []
  split
  · next htot => exact fileChoicesTags_of_gate _ (Or.inl htot)
  next htot =>
  split
  · next hnone =>
    refine fileChoicesTags_of_no_candidate fun t _ ht => ?_
    have := (mem_keysOf (ord := ord)).mpr ht
    rw [lastMax_none hnone] at this
    cases this
  next dom hdom =>
  have hd := lastMax_spec hdom
  split
  · next hlow =>
    -- the dominant style has the largest count
    refine fileChoicesTags_of_gate _ (Or.inr fun t => Nat.lt_of_le_of_lt (Nat.mul_le_mul_left _ ?_) hlow)
    by_cases ht : tags.count t > 0
    · exact hd.2 t (mem_keysOf.mpr ht)
    · exact Nat.le_trans (Nat.le_of_not_lt ht) (Nat.zero_le _)
  next hlow =>
  have hgate : ¬ (tags.length < minIdentifiers ∨ ∀ t, mediumDen * tags.count t < mediumNum * tags.length) :=
    fun hg => hg.elim htot fun hall => hlow (hall dom)
  split
  · next hc =>
    exact mem_fileChoicesTags.mpr
      ⟨hgate, List.contains_iff_mem.mp hc, mem_keysOf.mp hd.1, fun t _ ht => hd.2 t (mem_keysOf.mpr ht)⟩
  · cases h : (sortDesc (fun s => tags.count s) (keysOf ord tags)).find? (fun s => possible.contains s) with
    | some s =>
      refine mem_fileChoicesTags.mpr ⟨hgate, List.contains_iff_mem.mp (List.find?_some h),
        mem_keysOf.mp (mem_sortDesc.mp (List.mem_of_find?_eq_some h)), fun t hpt ht => ?_⟩
      rcases List.find?_pairwise (sortDesc_sorted _) h (mem_sortDesc.mpr (mem_keysOf.mpr ht))
        (List.contains_iff_mem.mpr hpt) with rfl | hle
      · exact Nat.le_refl _
      · exact hle
    | none =>
      exact fileChoicesTags_of_no_candidate fun t hpt ht =>
        List.find?_eq_none.mp h t (mem_sortDesc.mpr (mem_keysOf.mpr ht)) (List.contains_iff_mem.mpr hpt)

theorem fileSuggestTags_mem_choices {ord tags possible : List Style} {s : Style}
    (h : fileSuggestTags ord tags possible = some s) : s ∈ fileChoicesTags tags possible := by
  have := fileSuggestTags_spec ord tags possible
  rwa [h] at this

/-- WHETHER the file context answers does not depend on the iteration order (only WHICH of the equally counted styles it
    names does) -/
theorem fileSuggestTags_none {ord tags possible : List Style}
    (h : fileSuggestTags ord tags possible = none) : fileChoicesTags tags possible = [] := by
  have := fileSuggestTags_spec ord tags possible
  rwa [h] at this

theorem fileSuggest_mem_choices {A : Acr} {ord : List Style} {content : Bytes} {possible : List Style} {s : Style}
    (h : fileSuggest A ord content possible = some s) : s ∈ fileChoices A content possible :=
  fileSuggestTags_mem_choices h

theorem fileSuggest_none {A : Acr} {ord : List Style} {content : Bytes} {possible : List Style}
    (h : fileSuggest A ord content possible = none) : fileChoices A content possible = [] :=
  fileSuggestTags_none h

/-- level 2, for EVERY iteration order of the `HashMap` -/
theorem fileSuggestTags_mem {ord tags possible : List Style} {s : Style}
    (h : fileSuggestTags ord tags possible = some s) : s ∈ possible :=
  (mem_fileChoicesTags.mp (fileSuggestTags_mem_choices h)).2.1

theorem fileSuggest_mem {A : Acr} {ord : List Style} {content : Bytes} {possible : List Style} {s : Style}
    (h : fileSuggest A ord content possible = some s) : s ∈ possible := fileSuggestTags_mem h

theorem tryLanguage_mem (hg : RulesGuarded) {c : Ctx} {possible : List Style} {s : Style}
    (h : tryLanguage c possible = some s) : s ∈ possible := by
  unfold tryLanguage at h
  split at h
  · exact langSuggest_mem hg h
  · cases h

theorem tryFile_mem {A : Acr} {ord : List Style} {c : Ctx} {possible : List Style} {s : Style}
    (h : tryFile A ord c possible = some s) : s ∈ possible := by
  unfold tryFile at h
  split at h
  · exact fileSuggest_mem h
  · cases h

/-- the contract of the cross-file level (it is not modelled): `pick_best_style_from_patterns` only returns a style for
    which `possible_styles.contains` holds -/
def CrossOk (cross : Bytes → Bytes → Bytes → List Style → Option Style) : Prop :=
  ∀ root e w l s, cross root e w l = some s → s ∈ l

theorem tryCross_mem {cross : Bytes → Bytes → Bytes → List Style → Option Style} (hc : CrossOk cross) {c : Ctx}
    {possible : List Style} {s : Style} (h : tryCross cross c possible = some s) : s ∈ possible := by
  unfold tryCross at h
  split at h
  · split at h
    · cases h
    · dsimp only at h
      split at h
      · cases h
      · exact hc _ _ _ _ _ h
  · cases h

/-- levels 1–3 together satisfy `HeurOk` -/
theorem heurCtx_ok (hg : RulesGuarded) {A : Acr} {ord : List Style}
    {cross : Bytes → Bytes → Bytes → List Style → Option Style} (hc : CrossOk cross) (c : Ctx) :
    ∀ l s, heurCtx A ord cross c l = some s → s ∈ l := by
  intro l s h
  unfold heurCtx at h
  split at h
  · rename_i s' hs; cases h; exact tryLanguage_mem hg hs
  · split at h
    · rename_i s' hs; cases h; exact tryFile_mem hs
    · exact tryCross_mem hc h

/-- `project_root: None` ⇒ `try_cross_file_context` returns at its first `?`: the level never answers, whatever it is -/
theorem tryCross_root_none {cross : Bytes → Bytes → Bytes → List Style → Option Style} {c : Ctx} (h : c.root = none)
    (possible : List Style) : tryCross cross c possible = none := by
  unfold tryCross
  rw [h]

theorem heurCtx_root_none {A : Acr} {ord : List Style} (cross : Bytes → Bytes → Bytes → List Style → Option Style)
    {c : Ctx} (h : c.root = none) : heurCtx A ord cross c = heurCtx A ord (fun _ _ _ _ => none) c := by
  funext possible
  unfold heurCtx
  rw [tryCross_root_none h, tryCross_root_none h]

/-- the heuristics as `generate_hunks` instantiates them: for every iteration order, every path, file, line and column,
    whatever they return is a member of the list they are given — no hypothesis left -/
theorem heurReal_ok (hg : RulesGuarded) (A : Acr) (ord : List Style) (path content line : Bytes) (pos : Nat) :
    ∀ l s, heurReal A ord path content line pos l = some s → s ∈ l :=
  heurCtx_ok hg (fun _ _ _ _ _ h => absurd h (by simp)) _

/-- … and they are what `resolve_with_styles` does on the scanner's context, whatever the cross-file analyzer is -/
theorem heurReal_eq_heurCtx (A : Acr) (ord : List Style) (cross : Bytes → Bytes → Bytes → List Style → Option Style)
    (path content line : Bytes) (pos : Nat) :
    heurCtx A ord cross (hunkCtx path content line pos) = heurReal A ord path content line pos :=
  heurCtx_root_none cross rfl

/-- the context of a path component (rename.rs: every field `None`): all three levels are silent, the resolver is its
    fallback chain — what the `resolve` driver op and C08's path model run -/
theorem heurCtx_pathCtx (A : Acr) (ord : List Style) (cross : Bytes → Bytes → Bytes → List Style → Option Style) :
    heurCtx A ord cross pathCtx = fun _ => none := by
  funext possible
  rfl

/-- a file whose extension selects no language module and which has fewer counted identifiers than the threshold: both
    levels are silent for every line and column — the one-line `a.txt` files of the `rewriteline` correspondence -/
theorem heurReal_silent {A : Acr} (ord : List Style) {path content : Bytes} (line : Bytes) (pos : Nat)
    (hext : (extension path).bind rulesOfExt = none) (hfew : (styleTags A content).length < minIdentifiers) :
    heurReal A ord path content line pos = fun _ => none := by
  funext possible
  have h1 : tryLanguage (hunkCtx path content line pos) possible = none := by
    simp only [tryLanguage, hunkCtx, langSuggest]
    cases he : extension path with
    | none => rfl
    | some e =>
      rw [he] at hext
      simp only [Option.bind_some] at hext
      simp only [hext]
  have h2 : tryFile A ord (hunkCtx path content line pos) possible = none := by
    simp only [tryFile, hunkCtx, fileSuggest, fileSuggestTags, hfew, ↓reduceIte]
  simp only [heurReal, heurCtx, h1, h2, tryCross_root_none (c := hunkCtx path content line pos) rfl]

/-- `resolveWhy` (what the driver runs) chooses the style of `LinePipeline.resolve` with `heur := heurCtx …` -/
theorem resolveWhy_style (A : Acr) (ord : List Style) (cross : Bytes → Bytes → Bytes → List Style → Option Style) (c : Ctx)
    (matched repl : Bytes) (rp : List Style) :
    (resolveWhy A ord cross c matched repl rp).2 = LinePipeline.resolve A (heurCtx A ord cross c) matched repl rp := by
  rw [resolveWhy]

end Resolver
