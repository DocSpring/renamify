import RModel.Lemmas.C20Base
import RModel.Lemmas.Wrappers
/-
  C20: the decision table, evaluated by the kernel.  What costs is `okFor` (one run of the parser model and one reading of its
  result per valuation); nothing else should be paid for, so "small builder" is decided by counting the optional fields
  (`probe_eq`, `space_eq`) rather than by listing their 2^n subsets as `Wrap.isSmall` does — for the 14-field builder that
  listing alone costs a quarter of the builder's rows — and the parse result is read through `okForF` (`Lemmas/Wrappers.lean`).
-/
namespace C20
open Wrap Cli

theorem masks_length : ∀ fs : List Field, (masks fs).length = 2 ^ (fs.filter (·.optional)).length
  | [] => rfl
  | f :: fs => by
    cases h : f.optional <;> simp [masks, h, masks_length fs, Nat.pow_succ, Nat.mul_two]

theorem isSmall_eq (b : Builder) : isSmall b = decide ((b.fields.filter (·.optional)).length ≤ 6) := by
  rw [isSmall, masks_length, Bool.eq_iff_iff, Nat.ble_eq, decide_eq_true_eq]
  exact Nat.pow_le_pow_iff_right (a := 2) (m := 6) (by decide)

def probeC (b : Builder) : List Valuation :=
  if (b.fields.filter (·.optional)).length ≤ 6 then enumerate b
  else baseVal b :: singlesAt b b.fields 0 ++ hostileVals b ++ badCombos b

def coreC (live : List Str) (b : Builder) : List Valuation :=
  if (b.fields.filter (·.optional)).length ≤ 6 then enumerate b
  else
    let idx := List.range b.fields.length
    probeC b ++ (List.range (profiles b)).flatMap (fun k => [greedy live b k idx, greedy live b k idx.reverse])

theorem probe_eq : probe = probeC := by
  funext b
  simp only [probe, probeC, isSmall_eq, decide_eq_true_eq]

theorem space_eq : space = coreC live := by
  funext b
  simp only [space, core, coreC, probe_eq, isSmall_eq, decide_eq_true_eq]

theorem rowOk_eq : rowOk = fun b v => guard b v != okForF G b v := by
  funext b v
  rw [rowOk, okFor_eq]

theorem tableOn_eq (bs : List Builder) :
    tableOn bs = bs.all fun b => (coreC live b).all fun v => guard b v != okForF G b v := by
  rw [tableOn, space_eq, rowOk_eq]

theorem tableA : tableOn (Gen.Wrappers.builders.take cutA) = true := by rw [tableOn_eq]; decide +kernel

theorem tableB : tableOn ((Gen.Wrappers.builders.drop cutA).take cutB) = true := by rw [tableOn_eq]; decide +kernel

theorem tableC : tableOn ((Gen.Wrappers.builders.drop cutA).drop cutB) = true := by rw [tableOn_eq]; decide +kernel

/-- the decision table over all builders; it is evaluated in three parts so that no part comes near the heartbeat limit -/
theorem table : Gen.Wrappers.builders.all (fun b => (space b).all (rowOk b)) = true := by
  rw [← List.take_append_drop cutA Gen.Wrappers.builders, List.all_append,
      ← List.take_append_drop cutB (Gen.Wrappers.builders.drop cutA), List.all_append]
  exact (Bool.and_eq_true _ _).mpr ⟨tableA, (Bool.and_eq_true _ _).mpr ⟨tableB, tableC⟩⟩

end C20
