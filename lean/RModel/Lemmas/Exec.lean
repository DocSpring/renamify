import RModel.Lemmas.ExecTree
import RModel.Lemmas.Edits
/-
  A program logic for `Exec.M`, and what it proves about the programs of `Model/Exec.lean`.
  `Run J J' P x Q E C`: from every state in mode `J` whose tree satisfies `P`, a normal end of `x` is in mode `J` and
  satisfies `Q`, a reported error `f` is in mode `J'` and leaves a tree satisfying `E f`, and a crash leaves a tree
  satisfying `C`.  A mode is a predicate on the control part of the state (injection spec, call counter); assertions
  speak about the tree only.  A statement in mode `Any` speaks about every fault index k and every crash prefix at once.
  Property theorems are in `RModel/Props/C04.lean` and `RModel/Props/C11.lean`.
-/

namespace ExecL
open Fs Apply Exec RenamePhase

def Sat {α : Type} (J J' : St → Prop) (Q : α → Tree → Prop) (E : Fail → Tree → Prop) (C : Tree → Prop) : Res α → Prop
  | .ok a s => J s ∧ Q a s.t
  | .err f s => J' s ∧ E f s.t
  | .crash s => C s.t

def Run {α : Type} (J J' : St → Prop) (P : Tree → Prop) (x : M α) (Q : α → Tree → Prop) (E : Fail → Tree → Prop)
    (C : Tree → Prop) : Prop :=
  ∀ s : St, J s → P s.t → Sat J J' Q E C (x s)

def Any : St → Prop := fun _ => True

section rules
variable {α β : Type} {J J' : St → Prop} {P P' : Tree → Prop} {Q Q' : α → Tree → Prop} {E E' : Fail → Tree → Prop}
  {C C' : Tree → Prop} {x : M α}

theorem Run.pure (a : α) (h : ∀ t, P t → Q a t := by exact fun _ h => h) : Run J J' P (pure a : M α) Q E C :=
  fun _ hj hp => ⟨hj, h _ hp⟩

theorem Run.throw (f : Fail) (h : ∀ t, P t → E f t := by exact fun _ h => h)
    (hJ : ∀ s, J s → J' s := by exact fun _ h => h) :
    Run J J' P (throw f : M α) Q E C :=
  fun _ hj hp => ⟨hJ _ hj, h _ hp⟩

theorem Run.getTree : Run J J' P getTree (fun a t => a = t ∧ P t) E C :=
  fun _ hj hp => ⟨hj, rfl, hp⟩

theorem Run.read {f : Tree → M β} {Q' : β → Tree → Prop} (h : ∀ a, P a → Run J J' P (f a) Q' E C) :
    Run J J' P (Exec.getTree >>= f) Q' E C :=
  fun s hj hp => h s.t hp s hj hp

theorem Run.bind {f : α → M β} {Q' : β → Tree → Prop} (hx : Run J J' P x Q E C)
    (hf : ∀ a, Run J J' (Q a) (f a) Q' E C) : Run J J' P (x >>= f) Q' E C := by
  intro s hj hp
  have h1 := hx s hj hp
  show Sat J J' Q' E C (M.bind x f s)
  unfold M.bind
  revert h1
  cases x s with
  | ok a s' => exact fun h1 => hf a s' h1.1 h1.2
  | err e s' => exact id
  | crash s' => exact id

theorem Run.weaken (h : Run J J' P x Q E C) (hp : ∀ t, P' t → P t) (hq : ∀ a t, Q a t → Q' a t) :
    Run J J' P' x Q' E C := by
  intro s hj hs
  have h1 := h s hj (hp _ hs)
  revert h1
  cases x s with
  | ok a s' => exact fun h1 => ⟨h1.1, hq _ _ h1.2⟩
  | err e s' => exact id
  | crash s' => exact id

theorem Run.mono (h : Run J J' P x Q E C) (he : ∀ f t, E f t → E' f t) (hc : ∀ t, C t → C' t) :
    Run J J' P x Q E' C' := by
  intro s hj hs
  have h1 := h s hj hs
  revert h1
  cases x s with
  | ok a s' => exact id
  | err e s' => exact fun h1 => ⟨h1.1, he _ _ h1.2⟩
  | crash s' => exact hc _

theorem Run.trivial : Run Any Any P x (fun _ _ => True) (fun _ _ => True) (fun _ => True) := by
  intro s _ _
  cases x s with
  | ok a s' => exact ⟨True.intro, True.intro⟩
  | err e s' => exact ⟨True.intro, True.intro⟩
  | crash s' => exact True.intro

theorem Run.of_forall_tree (h : ∀ t0, P t0 → Run J J' (fun t => t = t0) x Q E C) : Run J J' P x Q E C :=
  fun s hj hp => h s.t hp s hj rfl

theorem Run.assume (H : Prop) (h1 : ∀ t, P t → H) (h2 : H → Run J J' P x Q E C) : Run J J' P x Q E C :=
  fun s hj hp => h2 (h1 _ hp) s hj hp

end rules

section catching
variable {β : Type} {J J' : St → Prop} {P : Tree → Prop} {Q : Unit → Tree → Prop} {E E' : Fail → Tree → Prop}
  {C : Tree → Prop} {x : M Unit}

/-- `match x() { Err(f) => … }`: the error becomes a value, except a panic, which unwinds -/
theorem Run.tryCatch (hx : Run J J' P x Q E C) (hJ : ∀ s, J' s → J s := by exact fun _ h => h)
    (hE : ∀ t, E .panic t → E' .panic t := by exact fun _ h => h) :
    Run J J' P (tryCatch x) (fun r t => match r with | none => Q () t | some f => E f t) E' C := by
  intro s hj hp
  have h1 := hx s hj hp
  unfold Exec.tryCatch
  revert h1
  cases x s with
  | ok a s' => exact id
  | crash s' => exact id
  | err f s' =>
    cases f with
    | panic => exact fun h1 => ⟨h1.1, hE _ h1.2⟩
    | _ => exact fun h1 => ⟨hJ _ h1.1, h1.2⟩

theorem Run.tryOp {op : Op} (hx : Run J J' P (doOp op) Q E C) (hJ : ∀ s, J' s → J s := by exact fun _ h => h) :
    Run J J' P (tryOp op) (fun r t => match r with | none => Q () t | some e => E (.io e) t) E C := by
  intro s hj hp
  have h1 := hx s hj hp
  unfold Exec.tryOp
  revert h1
  cases doOp op s with
  | ok a s' => exact id
  | crash s' => exact id
  | err f s' =>
    cases f with
    | io e => exact fun h1 => ⟨hJ _ h1.1, h1.2⟩
    | _ => exact id

/-- `let _ = x();` -/
theorem Run.ignoreErr {Q' : Tree → Prop} (hx : Run J J' P x Q E C) (hq : ∀ t, Q () t → Q' t := by exact fun _ h => h)
    (he : ∀ f t, E f t → Q' t := by exact fun _ _ h => h) (hJ : ∀ s, J' s → J s := by exact fun _ h => h)
    (hE : ∀ t, E .panic t → E' .panic t := by exact fun _ h => h) :
    Run J J' P (ignoreErr x) (fun _ t => Q' t) E' C :=
  (hx.tryCatch hJ hE).bind (fun r => Run.pure () (by cases r; exact hq; exact he _))

theorem Sat.of_no_ok {Q' : β → Tree → Prop} {r : Res β} (h : Sat J' J' (fun _ _ => False) E' C r) :
    Sat J J' Q' E' C r := by
  cases r with
  | ok b s => exact h.2.elim
  | err g s => exact h
  | crash s => exact h

/-- `if let Err(f) = x() { …; return Err(f) }`: the handler runs in the mode of the error and does not end normally, so
    only the normal end of `x` continues -/
theorem Run.tryCatch_raise {k : Option Fail → M β} {Q' : β → Tree → Prop} (hx : Run J J' P x Q E C)
    (hnone : Run J J' (Q ()) (k none) Q' E' C)
    (hsome : ∀ f, f ≠ .panic → Run J' J' (E f) (k (some f)) (fun _ _ => False) E' C)
    (hE : ∀ t, E .panic t → E' .panic t := by exact fun _ h => h) :
    Run J J' P (Exec.tryCatch x >>= k) Q' E' C := by
  intro s hj hp
  have h1 := hx s hj hp
  show Sat J J' Q' E' C (M.bind (Exec.tryCatch x) k s)
  unfold M.bind Exec.tryCatch
  revert h1
  cases x s with
  | ok a s' => exact fun h1 => hnone s' h1.1 h1.2
  | crash s' => exact id
  | err f s' =>
    intro h1
    cases f with
    | panic => exact ⟨h1.1, hE _ h1.2⟩
    | _ => exact Sat.of_no_ok (hsome _ (fun h => by cases h) s' h1.1 h1.2)

theorem Run.repeatM (h : Run J J' P x (fun _ t => P t) E C) :
    ∀ n, Run J J' P (repeatM n x) (fun _ t => P t) E C
  | 0 => Run.pure ()
  | n + 1 => h.bind (fun _ => Run.repeatM h n)

/-- `write_all` issues no call for an empty buffer -/
theorem Run.writeAll {p : Path} {c : Bytes} (h0 : c = [] → ∀ t, P t → Q () t)
    (h : Run J J' P (doOp (.write p c)) Q E C) : Run J J' P (Exec.writeAll p c) Q E C := by
  unfold Exec.writeAll
  split
  · rename_i hc
    exact Run.pure () (h0 (List.isEmpty_iff.1 hc))
  · exact h

end catching

/-- under EVERY injection spec and counter value: a normal end of `x` satisfies `Q`, and a reported error or a crash —
    wherever it happens — leaves a tree satisfying `R` -/
abbrev Safe {α : Type} (R P : Tree → Prop) (x : M α) (Q : α → Tree → Prop) : Prop := Run Any Any P x Q (fun _ => R) R

theorem Safe.final {α : Type} {R P : Tree → Prop} {x : M α} (h : Safe R P x (fun _ t => R t)) (s : St) (hp : P s.t) :
    R (x s).st.t := by
  have h1 := h s trivial hp
  revert h1
  cases x s with
  | ok a s' => exact fun h1 => h1.2
  | err e s' => exact fun h1 => h1.2
  | crash s' => exact id

def due : Inj → Nat → Prop
  | .none, _ => False
  | .fail k _, n | .crashBefore k, n | .crashAfter k, n | .crashMid k, n => k = n

theorem doOp_not_due {op : Op} {s : St} (h : ¬ due s.inj s.n) : doOp op s = stepOp op s := by
  unfold doOp
  cases hi : s.inj <;> rw [hi] at h <;> first | rfl | exact if_neg h

theorem doOp_fail_due {op : Op} {s : St} {e : Errno} (h : s.inj = .fail s.n e) :
    doOp op s = .err (.io e) (rec s op (some e)) := by
  unfold doOp
  rw [h]
  exact if_pos rfl

section calls
variable {P : Tree → Prop} {Q : Unit → Tree → Prop} {E : Fail → Tree → Prop} {C : Tree → Prop}

/-- the rule for one mutating call in mode `Any`: the state before it, the state after it and the half-done state must
    all be acceptable places to stop -/
theorem run_doOp (op : Op) (he : ∀ t e, P t → E (.io e) t) (hc : ∀ t, P t → C t)
    (h1 : ∀ t t', P t → execOp t op = .ok t' → Q () t' ∧ C t') (h2 : ∀ t, P t → C (partialOp t op)) :
    Run Any Any P (doOp op) Q E C := by
  intro s _ hp
  by_cases hd : due s.inj s.n
  · unfold Exec.doOp
    cases hi : s.inj <;> rw [hi] at hd <;> dsimp only
    · exact hd.elim
    all_goals rw [if_pos (show _ = s.n from hd)]
    · exact ⟨trivial, he _ _ hp⟩
    · exact hc _ hp
    · cases hx : execOp s.t op with
      | ok t' => exact (h1 _ _ hp hx).2
      | error e => exact hc _ hp
    · exact h2 _ hp
  · rw [doOp_not_due hd]
    unfold stepOp
    cases hx : execOp s.t op with
    | ok t' => exact ⟨trivial, (h1 _ _ hp hx).1⟩
    | error e => exact ⟨trivial, he _ e hp⟩

theorem safe_doOp {R : Tree → Prop} (op : Op) (h0 : ∀ t, P t → R t)
    (h1 : ∀ t t', P t → execOp t op = .ok t' → Q () t' ∧ R t') (h2 : ∀ t, P t → R (partialOp t op)) :
    Safe R P (doOp op) Q :=
  run_doOp op (fun t _ => h0 t) h0 h1 h2

/-- the states in which nothing will be injected any more -/
def QuietAt (i : Inj) (n : Nat) (s : St) : Prop := (i = .none ∨ ∃ k e, i = .fail k e ∧ k < n) ∧ s.inj = i ∧ n ≤ s.n

theorem QuietAt.not_due {i : Inj} {n : Nat} {s : St} (h : QuietAt i n s) : ¬ due s.inj s.n := by
  obtain ⟨hq | ⟨k, e, hq, hk⟩, hi, hn⟩ := h <;> rw [hi, hq]
  · exact id
  · exact fun hd : k = s.n => by omega

theorem run_doOp_quiet {i : Inj} {n : Nat} (op : Op) (h1 : ∀ t t', P t → execOp t op = .ok t' → Q () t')
    (h2 : ∀ t e, P t → execOp t op = .error e → E (.io e) t) :
    Run (QuietAt i n) (QuietAt i n) P (doOp op) Q E C := by
  intro s hj hp
  have hj' : ∀ r, QuietAt i n (rec s op r) := fun r => ⟨hj.1, hj.2.1, Nat.le_succ_of_le hj.2.2⟩
  rw [doOp_not_due hj.not_due]
  unfold stepOp
  cases hx : execOp s.t op with
  | ok t' => exact ⟨hj' none, h1 _ _ hp hx⟩
  | error e => exact ⟨hj' _, h2 _ _ hp hx⟩

def Pending (k : Nat) (e : Errno) (s : St) : Prop := s.inj = .fail k e

theorem run_doOp_pending {k : Nat} {e : Errno} (op : Op) (h : ∀ t, P t → ∃ t', execOp t op = .ok t' ∧ Q () t') :
    Run (Pending k e) (QuietAt (.fail k e) (k + 1)) P (doOp op) Q (fun f t => f ≠ .panic ∧ P t) C := by
  intro s hj hp
  have hi : s.inj = .fail k e := hj
  by_cases hk : k = s.n
  · rw [doOp_fail_due (hk ▸ hi)]
    exact ⟨⟨Or.inr ⟨k, e, rfl, Nat.lt_succ_self k⟩, hi, Nat.succ_le_succ (Nat.le_of_eq hk)⟩, Fail.noConfusion, hp⟩
  · rw [doOp_not_due (by rw [hi]; exact hk)]
    obtain ⟨t', hx, hq⟩ := h _ hp
    unfold stepOp
    rw [hx]
    exact ⟨hi, hq⟩

end calls

/-- whether log-write errors count as failures of the command: they do when `state.log(…)?` propagates them, and there
    are none when the command has no log file -/
def LogReports (cfg : Cfg) : Prop := ExecFlags.logErrorsIgnored = false ∨ cfg.log.isSome = false

def LogQuiet (cfg : Cfg) : Prop := ExecFlags.logErrorsIgnored = true ∨ cfg.log.isSome = false

theorem logM_cases (cfg : Cfg) :
    logM cfg = pure () ∨ (logM cfg = doOp .logLine ∧ ¬ LogQuiet cfg) ∨
      (logM cfg = ignoreErr (doOp .logLine) ∧ ¬ LogReports cfg) := by
  unfold logM logMF LogQuiet LogReports
  cases cfg.log.isSome <;> cases ExecFlags.logErrorsIgnored <;> simp

section logging
variable {J J' : St → Prop} {P : Tree → Prop} {E E0 : Fail → Tree → Prop} {C : Tree → Prop} (cfg : Cfg)

theorem run_logM (hop : Run J J' P (doOp .logLine) (fun _ t => P t) E0 C) (he : ∀ f t, E0 f t → P t ∧ E f t)
    (hJ : ∀ s, J' s → J s := by exact fun _ h => h) : Run J J' P (logM cfg) (fun _ t => P t) E C := by
  rcases logM_cases cfg with hc | ⟨hc, _⟩ | ⟨hc, _⟩ <;> rw [hc]
  · exact Run.pure ()
  · exact hop.mono (fun f t h => (he f t h).2) (fun _ h => h)
  · exact hop.ignoreErr (fun _ hp => hp) (fun f t h => (he f t h).1) hJ (fun t h => (he _ t h).2)

theorem safe_logM {R : Tree → Prop} (h : ∀ t, P t → R t := by exact fun _ h => h) :
    Safe R P (logM cfg) (fun _ t => P t) :=
  run_logM cfg (run_doOp _ (fun _ _ hp => hp) h (fun _ _ hp he => by cases he; exact ⟨hp, h _ hp⟩) h)
    (fun _ t hp => ⟨hp, h t hp⟩)

theorem logM_quiet {i : Inj} {n : Nat} : Run (QuietAt i n) (QuietAt i n) P (logM cfg) (fun _ t => P t) E C :=
  run_logM cfg (run_doOp_quiet _ (fun _ _ hp he => by cases he; exact hp) (fun _ _ _ he => by cases he))
    (fun _ _ (h : False) => h.elim)

theorem logM_pending {k : Nat} {e : Errno} (hlq : LogQuiet cfg) :
    Run (Pending k e) (QuietAt (.fail k e) (k + 1)) P (logM cfg) (fun _ t => P t) E C := by
  rcases logM_cases cfg with hc | ⟨_, hn⟩ | ⟨hc, _⟩
  · rw [hc]
    exact Run.pure ()
  · exact absurd hlq hn
  · rw [hc]
    exact (run_doOp_pending (Q := fun _ t => P t) .logLine (fun t hp => ⟨t, rfl, hp⟩)).ignoreErr (fun _ hp => hp)
      (fun _ _ h => h.2) (fun _ h => h.2.1) (fun _ h => absurd rfl h.1)

end logging

def Ignores (x : Path) (I : Tree → Prop) : Prop := ∀ t t', Frame x t t' → I t → I t'

section private_path
variable {x : Path} {I : Tree → Prop} (hI : Ignores x I)
include hI

theorem safe_doOp_at (op : Op) (hx : target op = some x) : Safe I I (doOp op) (fun _ t => I t) :=
  safe_doOp op (fun _ h => h) (fun _ _ h he => have := hI _ _ (frame_execOp hx he) h; ⟨this, this⟩)
    (fun t h => hI _ _ (frame_partialOp t hx) h)

theorem safe_openw_at (ex : Bool) :
    Safe I I (doOp (.openw x true ex)) (fun _ t => I t ∧ ∃ m, lookup t x = some (.file [] m)) :=
  safe_doOp _ (fun _ h => h) (fun _ _ h he => have := hI _ _ (frame_execOp rfl he) h; ⟨⟨this, openw_at he⟩, this⟩)
    (fun _ h => h)

theorem safe_writeAll_at (c : Bytes) :
    Safe I (fun t => I t ∧ ∃ m, lookup t x = some (.file [] m)) (writeAll x c)
      (fun _ t => I t ∧ ∃ m, lookup t x = some (.file c m)) :=
  Run.writeAll (fun hc _ h => hc ▸ h) (safe_doOp _ (fun _ h => h.1)
    (fun _ _ ⟨h, m, hl⟩ he => have := hI _ _ (frame_execOp rfl he) h; ⟨⟨this, m, write_at he hl⟩, this⟩)
    (fun t h => hI _ _ (frame_partialOp t rfl) h.1))

theorem safe_writeAll_keeps (c : Bytes) : Safe I I (writeAll x c) (fun _ t => I t) :=
  Run.writeAll (fun _ _ h => h) (safe_doOp_at hI _ rfl)

end private_path

def Whole (orig : Tree) (hs : List Hunk) (t : Tree) : Prop :=
  ∀ p c m, lookup orig p = some (.file c m) →
    lookup t p = some (.file c m) ∨
    ∃ c', Edits.applyEdits c (editsFor hs p) = .ok c' ∧ lookup t p = some (.file c' m)

def Keep (orig : Tree) (hs : List Hunk) (l : List Path) (t : Tree) : Prop :=
  Whole orig hs t ∧ ∀ g ∈ l, lookup t g = lookup orig g

theorem whole_ignores {orig : Tree} {hs : List Hunk} {x : Path} (hx1 : ∀ c m, lookup orig x ≠ some (.file c m)) :
    Ignores x (Whole orig hs) := by
  intro t t' hf hw p c m hp
  rw [hf p (fun h => hx1 c m (h ▸ hp))]
  exact hw p c m hp

theorem keep_ignores {orig : Tree} {hs : List Hunk} {l : List Path} {x : Path}
    (hx1 : ∀ c m, lookup orig x ≠ some (.file c m)) (hx2 : ∀ g ∈ l, g ≠ x) : Ignores x (Keep orig hs l) :=
  fun t t' hf hk => ⟨whole_ignores hx1 t t' hf hk.1, fun g hg => (hf g (hx2 g hg)).trans (hk.2 g hg)⟩

section content
variable {orig : Tree} {hs : List Hunk} {f : Path} {fs : List Path} {c : Bytes} {m : Nat}
  (hfo : lookup orig f = some (.file c m)) (hnd : f ∉ fs)
  (hx1 : ∀ c m, lookup orig (tmpPath f) ≠ some (.file c m)) (hx2 : ∀ g ∈ f :: fs, g ≠ tmpPath f)
include hfo hnd hx1 hx2

theorem safe_replaceFileX (ex : Bool) (c' : Bytes) (happ : Edits.applyEdits c (editsFor hs f) = .ok c') :
    Safe (Whole orig hs) (Keep orig hs (f :: fs)) (replaceFileX ex f c' m) (fun _ t => Keep orig hs fs t) := by
  have hI : Ignores (tmpPath f) (Keep orig hs (f :: fs)) := keep_ignores hx1 hx2
  have hW : ∀ t, Keep orig hs (f :: fs) t → Whole orig hs t := fun _ h => h.1
  unfold replaceFileX
  refine ((safe_openw_at hI ex).mono (fun _ => hW) hW).bind (fun _ => ?_)
  refine ((safe_writeAll_at hI c').mono (fun _ => hW) hW).bind (fun _ => ?_)
  refine Run.bind (Q := fun _ t => Keep orig hs (f :: fs) t ∧ lookup t (tmpPath f) = some (.file c' m))
    (safe_doOp _ (fun t h => h.1.1)
      (fun t t' ⟨hk, mt, hl⟩ he => have hk' := hI _ _ (frame_execOp rfl he) hk; ⟨⟨hk', chmod_at he hl⟩, hk'.1⟩)
      (fun t h => h.1.1)) (fun _ => ?_)
  refine safe_doOp _ (fun t h => h.1.1) ?_ (fun t h => h.1.1)
  intro t t' ⟨hk, hl⟩ he
  have hlf : lookup t f = some (.file c m) := (hk.2 f List.mem_cons_self).trans hfo
  obtain ⟨_, hb, _, hrest⟩ := rename_file_over_file hl hlf (fun h => hx2 f List.mem_cons_self h.symm) he
  have hk' : Keep orig hs fs t' := by
    refine ⟨fun p cp mp hp => ?_, fun g hg => ?_⟩
    · by_cases hpf : p = f
      · subst hpf
        rw [hfo] at hp
        cases hp
        exact Or.inr ⟨c', happ, hb⟩
      · rw [hrest p (fun h => hx1 cp mp (h ▸ hp)) hpf]
        exact hk.1 p cp mp hp
    · rw [hrest g (hx2 g (List.mem_cons_of_mem _ hg)) (fun h => hnd (h ▸ hg))]
      exact hk.2 g (List.mem_cons_of_mem _ hg)
  exact ⟨hk', hk'.1⟩

theorem safe_replaceFileFX (ex clean : Bool) (c' : Bytes) (happ : Edits.applyEdits c (editsFor hs f) = .ok c') :
    Safe (Whole orig hs) (Keep orig hs (f :: fs)) (replaceFileFX ex clean f c' m) (fun _ t => Keep orig hs fs t) := by
  have h := safe_replaceFileX hfo hnd hx1 hx2 ex c' happ
  unfold replaceFileFX
  cases clean with
  | false => exact h
  | true =>
    refine h.tryCatch.bind (fun r => ?_)
    cases r with
    | none => exact Run.pure ()
    | some e =>
      exact ((safe_doOp_at (whole_ignores hx1) _ rfl).ignoreErr).bind
        (fun _ => Run.throw _)

theorem safe_editOne (clean : Bool) (cfg : Cfg) :
    Safe (Whole orig hs) (Keep orig hs (f :: fs)) (editOneF clean cfg hs f c m) (fun _ t => Keep orig hs fs t) := by
  have hW : ∀ t, Keep orig hs (f :: fs) t → Whole orig hs t := fun _ h => h.1
  unfold editOneF
  refine (safe_logM cfg hW).bind (fun _ => ?_)
  cases happ : Edits.applyEdits c (editsFor hs f) with
  | error e => cases e <;> exact Run.throw _ hW
  | ok c' =>
    exact (safe_replaceFileFX hfo hnd hx1 hx2 _ clean c' happ).bind
      (fun _ => safe_logM cfg (fun t h => h.1))

end content

theorem safe_rollback_nil {R : Tree → Prop} (cfg : Cfg) : Safe R R (rollbackM cfg []) (fun _ t => R t) := by
  unfold rollbackM
  refine (safe_logM cfg).bind (fun _ => ?_)
  refine Run.bind (Q := fun _ t => R t) (Run.pure false) (fun b => ?_)
  cases b with
  | false => exact safe_logM cfg
  | true => exact Run.throw _

/-- the content phase, however it ends or wherever it is killed, leaves every file of `orig` whole -/
theorem safe_contentLoop (clean : Bool) (orig : Tree) (hs : List Hunk) (cfg : Cfg) : ∀ fs : List Path, fs.Nodup →
    (∀ f ∈ fs, (∀ g ∈ fs, g ≠ tmpPath f) ∧ ∀ c m, lookup orig (tmpPath f) ≠ some (.file c m)) →
    Safe (Whole orig hs) (Keep orig hs fs) (contentLoopF clean cfg hs fs) (fun _ t => Whole orig hs t) := by
  intro fs
  induction fs with
  | nil =>
    intro _ _
    exact Run.pure () (fun _ h => h.1)
  | cons f fs ih =>
    intro hnd hfresh
    have hnd' : f ∉ fs ∧ fs.Nodup := List.nodup_cons.1 hnd
    have hf := hfresh f List.mem_cons_self
    have hW : ∀ t, Keep orig hs (f :: fs) t → Whole orig hs t := fun _ h => h.1
    unfold contentLoopF
    refine Run.read (fun a hka => ?_)
    split
    · rename_i c m hl
      have hfo : lookup orig f = some (.file c m) := (hka.2 f List.mem_cons_self).symm.trans hl
      split
      · exact Run.throw _ hW
      · refine (safe_editOne hfo hnd'.1 hf.2 hf.1 clean cfg).tryCatch.bind (fun r => ?_)
        cases r with
        | none =>
          exact ih hnd'.2 (fun g hg => ⟨fun g' hg' => (hfresh g (List.mem_cons_of_mem _ hg)).1 g'
            (List.mem_cons_of_mem _ hg'), (hfresh g (List.mem_cons_of_mem _ hg)).2⟩)
        | some e =>
          exact (safe_logM cfg).bind (fun _ => (safe_rollback_nil cfg).bind
            (fun _ => Run.throw _))
    · exact Run.throw _ hW

/-- `Safe` with nothing claimed about errors and crashes: what a normal end of `x` has computed -/
abbrev Exact {α : Type} (P : Tree → Prop) (x : M α) (Q : α → Tree → Prop) : Prop := Safe (fun _ => True) P x Q

theorem exact_doOp {P : Tree → Prop} {Q : Unit → Tree → Prop} (op : Op)
    (h1 : ∀ t t', P t → execOp t op = .ok t' → Q () t') : Exact P (doOp op) Q :=
  safe_doOp op (fun _ _ => True.intro) (fun t t' hp he => ⟨h1 t t' hp he, True.intro⟩) (fun _ _ => True.intro)

theorem exact_logM {P : Tree → Prop} (cfg : Cfg) : Exact P (logM cfg) (fun _ t => P t) :=
  safe_logM cfg (fun _ _ => True.intro)

theorem exact_throw {α : Type} {P : Tree → Prop} {Q : α → Tree → Prop} (f : Fail) : Exact P (throw f : M α) Q :=
  Run.throw f (fun _ _ => True.intro)

theorem replaceFile_exact (ex : Bool) (f : Path) (c c' : Bytes) (m : Nat) (t0 : Tree)
    (hn : NodupKeys t0) (hl : lookup t0 f = some (.file c m)) (hfresh : lookup t0 (tmpPath f) = none) :
    Exact (fun t => t = t0) (replaceFileX ex f c' m) (fun _ t => t = setContent t0 f c') := by
  have htf : tmpPath f ≠ f := by
    intro h; rw [h, hl] at hfresh; cases hfresh
  unfold replaceFileX
  refine (exact_doOp (Q := fun _ t => t = t0 ++ [(tmpPath f, .file [] 0o644)]) _ ?_).bind (fun _ => ?_)
  · intro t t' ht he
    subst ht
    rcases openw_ok he with ⟨_, h⟩ | ⟨c1, m1, h, _⟩
    · exact h
    · rw [hfresh] at h; cases h
  refine Run.bind (Q := fun _ t => t = t0 ++ [(tmpPath f, .file c' 0o644)]) ?_ (fun _ => ?_)
  · refine Run.writeAll (fun hc _ h => hc ▸ h) (exact_doOp _ ?_)
    intro t t' ht he
    subst ht
    obtain ⟨c0, m0, h0, rfl⟩ := write_ok he
    rw [lookup_snoc_self _ hfresh] at h0
    cases h0
    rw [setContent_mapAt, mapAt_snoc _ _ hfresh]
    rfl
  refine (exact_doOp (Q := fun _ t => t = t0 ++ [(tmpPath f, .file c' m)]) _ ?_).bind (fun _ => ?_)
  · intro t t' ht he
    subst ht
    rw [chmod_ok he, setMode_mapAt, mapAt_snoc _ _ hfresh]
    rfl
  refine exact_doOp _ ?_
  intro t t' ht he
  subst ht
  obtain ⟨h, _⟩ := rename_file_over_file (lookup_snoc_self _ hfresh) (lookup_snoc_other _ _ hl) htf he
  rw [h, removeKey_snoc _ hfresh]
  exact putNode_eq_setContent c' hn hl

theorem editOne_exact (clean : Bool) (cfg : Cfg) (hs : List Hunk) (f : Path) (c : Bytes) (m : Nat) (t0 : Tree)
    (hn : NodupKeys t0) (hl : lookup t0 f = some (.file c m)) (hfresh : lookup t0 (tmpPath f) = none) :
    Exact (fun t => t = t0) (editOneF clean cfg hs f c m)
      (fun _ t => ∃ c', Edits.applyEdits c (editsFor hs f) = .ok c' ∧ t = setContent t0 f c') := by
  unfold editOneF
  refine (exact_logM cfg).bind (fun _ => ?_)
  cases happ : Edits.applyEdits c (editsFor hs f) with
  | error e => cases e <;> exact exact_throw _
  | ok c' =>
    have h := replaceFile_exact ExecFlags.tempOpenExclusive f c c' m t0 hn hl hfresh
    refine Run.bind (Q := fun _ t => t = setContent t0 f c') ?_
      (fun _ => (exact_logM cfg).weaken (fun _ h => h) (fun _ t h => ⟨c', rfl, h⟩))
    unfold replaceFileF replaceFileFX
    cases clean with
    | false => exact h
    | true =>
      exact h.tryCatch_raise (Run.pure ())
        (fun e _ => Run.trivial.bind (fun _ => exact_throw _))

/-- refinement: a normal end of the operation-level content loop has computed exactly `Apply.contentPhase` -/
theorem contentLoop_exact (clean : Bool) (cfg : Cfg) (hs : List Hunk) : ∀ (fs : List Path) (t0 : Tree), NodupKeys t0 →
    (∀ f ∈ fs, lookup t0 (tmpPath f) = none) →
    Exact (fun t => t = t0) (contentLoopF clean cfg hs fs) (fun _ t => contentPhase hs t0 fs = (.ok, t)) := by
  intro fs
  induction fs with
  | nil =>
    intro t0 _ _
    exact Run.pure () (fun t h => by subst h; rfl)
  | cons f fs ih =>
    intro t0 hn hfresh
    unfold contentLoopF
    refine Run.read (fun a ha => ?_)
    subst ha
    split
    · rename_i c m hl
      split
      · exact exact_throw _
      · rename_i hv
        refine (editOne_exact clean cfg hs f c m a hn hl (hfresh f List.mem_cons_self)).tryCatch_raise ?_
          (fun e _ => Run.trivial.bind (fun _ => Run.trivial.bind (fun _ => exact_throw _)))
        refine Run.assume (∃ c', Edits.applyEdits c (editsFor hs f) = .ok c') (fun t h => ⟨h.choose, h.choose_spec.1⟩)
          (fun hc => ?_)
        obtain ⟨c', hc'⟩ := hc
        refine (ih (setContent a f c') (nodupKeys_setContent f c' hn) (fun g hg => ?_)).weaken ?_ ?_
        · rw [lookup_setContent, hfresh g (List.mem_cons_of_mem _ hg)]
          split <;> rfl
        · intro t ⟨c'', h1, h2⟩
          rw [hc'] at h1
          cases h1
          exact h2
        · intro _ t h
          unfold contentPhase
          simp only [hl, hv, hc']
          exact h
    · exact exact_throw _

def FreeAlong : Tree → List (Path × Path) → List Ren → Prop
  | _, _, [] => True
  | t, perf, r :: rs =>
    lookup t (rebase perf r.newPath) = none ∧
    ∀ t', renameTS t (rebase perf r.path) (trailingSlash perf r.path) (rebase perf r.newPath)
        (trailingSlash perf r.newPath) = .ok t' →
      FreeAlong t' (perf ++ [(r.path, rebase perf r.newPath)]) rs

theorem renameLoop_exact (real : Bool) (cfg : Cfg) : ∀ (rs : List Ren) (perf exec : List (Path × Path)) (t0 : Tree),
    FreeAlong t0 perf rs →
    Exact (fun t => t = t0) (renameLoopF real cfg perf exec rs)
      (fun perf' t => renamePhase t0 perf rs = { outcome := .ok, tree := t, performed := perf' }) := by
  intro rs
  induction rs with
  | nil =>
    intro perf exec t0 _
    exact Run.pure perf (fun t h => by subst h; rfl)
  | cons r rs ih =>
    intro perf exec t0 ⟨hdest, hnext⟩
    have hraise : ∀ (e : Fail) (x : M Unit),
        Run Any Any (fun _ => True) (do logM cfg; x; (throw e : M (List (Path × Path)))) (fun _ _ => False)
          (fun _ _ => True) (fun _ => True) :=
      fun e x => Run.trivial.bind (fun _ => Run.trivial.bind (fun _ => exact_throw _))
    unfold renameLoopF
    refine (Run.repeatM (exact_logM cfg) _).bind (fun _ => ?_)
    dsimp only
    refine Run.tryCatch_raise
      (Q := fun _ t => renameTS t0 (rebase perf r.path) (trailingSlash perf r.path) (rebase perf r.newPath)
        (trailingSlash perf r.newPath) = .ok t) ?_ ?_ (fun e _ => hraise e _)
    · refine (exact_logM cfg).bind (fun _ => exact_doOp _ ?_)
      intro t t' ht he
      subst ht
      rwa [execOp_rename_free hdest] at he
    · refine (exact_logM cfg).tryCatch_raise ?_ (fun e _ => hraise e _)
      refine Run.of_forall_tree (fun t1 h1 => ?_)
      refine (ih _ _ t1 (hnext _ h1)).weaken (fun _ h => h) (fun perf' t h => ?_)
      unfold renamePhase
      simp only [h1]
      exact h


section rollback
variable {J J' : St → Prop} {I : Tree → Prop} {E : Fail → Tree → Prop} {C : Tree → Prop} {cfg : Cfg}
  (hlog : Run J J' I (logM cfg) (fun _ t => I t) E C)
  (hop : ∀ a b, Run J J' I (tryOp (.rename a b false false)) (fun _ t => I t) E C)
include hlog hop

theorem run_rollbackLoop : ∀ (l : List (Path × Path)) (b : Bool),
    Run J J' I (rollbackLoop cfg l b) (fun _ t => I t) E C
  | [], b => Run.pure b
  | (f, to) :: l, _ => hlog.bind (fun _ => (hop to f).bind (fun _ => run_rollbackLoop l _))

theorem run_rollbackM (hthrow : ∀ t, I t → E .rollbackErr t) (hJ : ∀ s, J s → J' s) (perf : List (Path × Path)) :
    Run J J' I (rollbackM cfg perf) (fun _ t => I t) E C := by
  unfold rollbackM
  refine hlog.bind (fun _ => (run_rollbackLoop hlog hop _ _).bind (fun b => ?_))
  cases b with
  | false => exact hlog
  | true => exact Run.throw _ hthrow hJ

end rollback

section renames
variable {I : Tree → Prop} (hI : ∀ t t' a b sa sb, I t → execOp t (.rename a b sa sb) = .ok t' → I t') (cfg : Cfg)
include hI

theorem safe_rename_op (a b : Path) (sa sb : Bool) : Safe I I (doOp (.rename a b sa sb)) (fun _ t => I t) :=
  safe_doOp _ (fun _ h => h) (fun _ _ h he => have := hI _ _ _ _ _ _ h he; ⟨this, this⟩) (fun _ h => h)

theorem safe_rollbackM (perf : List (Path × Path)) : Safe I I (rollbackM cfg perf) (fun _ t => I t) :=
  run_rollbackM (safe_logM cfg)
    (fun a b => (safe_rename_op hI a b false false).tryOp.weaken (fun _ h => h) (fun r _ h => by cases r <;> exact h))
    (fun _ h => h) (fun _ h => h) perf

theorem safe_renameLoop (real : Bool) : ∀ (rs : List Ren) (perf exec : List (Path × Path)),
    Safe I I (renameLoopF real cfg perf exec rs) (fun _ t => I t) := by
  have hlog : Safe I I (logM cfg) (fun _ t => I t) := safe_logM cfg
  have hfail : ∀ (e : Fail) (l : List (Path × Path)),
      Safe I I (do logM cfg; rollbackM cfg l; (throw e : M (List (Path × Path)))) (fun _ t => I t) :=
    fun e l => hlog.bind (fun _ => (safe_rollbackM hI cfg l).bind (fun _ => Run.throw _))
  intro rs
  induction rs with
  | nil => intro perf exec; exact Run.pure perf
  | cons r rs ih =>
    intro perf exec
    unfold renameLoopF
    refine (Run.repeatM hlog _).bind (fun _ => ?_)
    dsimp only
    refine (hlog.bind (fun _ => safe_rename_op hI _ _ _ _)).tryCatch.bind (fun res => ?_)
    cases res with
    | some e => exact hfail e _
    | none =>
      refine hlog.tryCatch.bind (fun res2 => ?_)
      cases res2 with
      | some e => exact hfail e _
      | none => exact ih _ _

end renames

theorem ignores_of_lookup {x y : Path} (h : y ≠ x) (Φ : Option Node → Prop) : Ignores x (fun t => Φ (lookup t y)) :=
  fun _ t' hf ht => show Φ (lookup t' y) from (hf y h).symm ▸ ht

section mkdirs
variable {n : Nat} {I : Tree → Prop} (hI : ∀ q : Path, q.length ≤ n → Ignores q I)
include hI

theorem safe_mkdir_try (q : Path) (hq : q.length ≤ n) : Safe I I (tryOp (.mkdir q)) (fun _ t => I t) :=
  (safe_doOp_at (hI q hq) _ rfl).tryOp.weaken (fun _ h => h) (fun r _ h => by cases r <;> exact h)

theorem safe_mkdirUp : ∀ (fuel : Nat) (p : Path), p.length ≤ n →
    Safe I I (mkdirUp fuel p) (fun l t => I t ∧ ∀ q ∈ l, q.length ≤ n) := by
  have hnil : Safe I I (pure [] : M (List Path)) (fun l t => I t ∧ ∀ q ∈ l, q.length ≤ n) :=
    Run.pure _ (fun _ h => ⟨h, fun _ hq => nomatch hq⟩)
  intro fuel
  induction fuel with
  | zero => intro p _; exact hnil
  | succ k ih =>
    intro p hpn
    unfold mkdirUp
    split
    · exact hnil
    · refine (safe_mkdir_try hI p hpn).bind (fun r => ?_)
      cases r with
      | none => exact hnil
      | some e =>
        cases e with
        | ENOENT =>
          refine (ih _ (Nat.le_trans (by rw [List.length_dropLast]; exact Nat.sub_le _ _) hpn)).bind
            (fun rest => Run.pure _ (fun t h => ⟨h.1, fun q hq => ?_⟩))
          rcases List.mem_cons.mp hq with rfl | h1
          · exact hpn
          · exact h.2 q h1
        | EEXIST =>
          refine Run.read (fun a _ => ?_)
          split
          · exact hnil
          · exact Run.throw _
        | _ => exact Run.throw _

theorem safe_mkdirDown : ∀ (l : List Path), (∀ q ∈ l, q.length ≤ n) → Safe I I (mkdirDown l) (fun _ t => I t) := by
  intro l
  induction l with
  | nil => intro _; exact Run.pure _
  | cons p ps ih =>
    intro hl
    have hps := ih (fun q hq => hl q (List.mem_cons_of_mem _ hq))
    unfold mkdirDown
    refine (safe_mkdir_try hI p (hl p List.mem_cons_self)).bind (fun r => ?_)
    cases r with
    | none => exact hps
    | some e =>
      cases e with
      | EEXIST =>
        refine Run.read (fun a _ => ?_)
        split
        · exact hps
        · exact Run.throw _
      | _ => exact Run.throw _

/-- `create_dir_all(p)` makes directories at prefixes of `p` only, so under every fault it keeps an invariant that does
    not look at paths that short -/
theorem safe_mkdirs (p : Path) (hp : p.length ≤ n) : Safe I I (mkdirs p) (fun _ t => I t) := by
  unfold mkdirs
  refine (safe_mkdirUp hI _ p hp).bind (fun l => ?_)
  refine Run.assume (∀ q ∈ l, q.length ≤ n) (fun _ h => h.2) (fun hl => ?_)
  exact (safe_mkdirDown hI l.reverse (fun q hq => hl q (List.mem_reverse.mp hq))).weaken (fun _ h => h.1)
    (fun _ _ h => h)

end mkdirs

theorem parseHist_encode (es : Bytes) : parseHist (encodeHist es) = some es := by
  simp [parseHist, encodeHist]

theorem loadHist_of_lookup {t : Tree} {c : Bytes} {m : Nat} (h : lookup t pHist = some (.file c m)) :
    loadHist t = (parseHist c).getD [] := by
  unfold loadHist
  rw [h]

/-- the states the history file can be seen in while `History::save` runs -/
def HistStates (c0 new : Bytes) (t : Tree) : Prop :=
  ∃ c m, lookup t pHist = some (.file c m) ∧ (c = c0 ∨ c = [] ∨ c = new.take (new.length / 2) ∨ c = new)

/-- `create_dir_all(".renamify")` does not touch the files below it -/
theorem safe_mkdirs_pR {y : Path} (Φ : Option Node → Prop) (hy : y.length = 2) :
    Safe (fun t => Φ (lookup t y)) (fun t => Φ (lookup t y)) (mkdirs pR) (fun _ t => Φ (lookup t y)) :=
  safe_mkdirs (n := 1) (fun _ hq => ignores_of_lookup (fun h => by rw [h] at hy; omega) Φ) pR (Nat.le_refl 1)

/-- `History::save` under EVERY fault and crash point, starting from an existing history file with content `c0`:
    the file holds the old content, the complete new content, or — only between the `open(O_TRUNC)` and the end of the
    `write` — nothing / the first half -/
theorem safe_saveHist_inPlace (entry : UInt8) (c0 : Bytes) (m0 : Nat) :
    Safe (HistStates c0 (encodeHist ((parseHist c0).getD [] ++ [entry])))
      (fun t => lookup t pHist = some (.file c0 m0)) (saveHistF false entry)
      (fun _ t => HistStates c0 (encodeHist ((parseHist c0).getD [] ++ [entry])) t) := by
  unfold saveHistF
  refine Run.read (fun a ha => ?_)
  rw [loadHist_of_lookup ha]
  dsimp only
  have hne : (encodeHist ((parseHist c0).getD [] ++ [entry])).isEmpty = false := rfl
  generalize encodeHist ((parseHist c0).getD [] ++ [entry]) = new at hne ⊢
  have hR : ∀ t, lookup t pHist = some (.file c0 m0) → HistStates c0 new t := fun t h => ⟨c0, m0, h, Or.inl rfl⟩
  have hE : ∀ t, (∃ m, lookup t pHist = some (.file [] m)) → HistStates c0 new t :=
    fun t ⟨m, h⟩ => ⟨[], m, h, Or.inr (Or.inl rfl)⟩
  refine Run.bind (Q := fun _ t => lookup t pHist = some (.file c0 m0)) ?_ (fun _ => ?_)
  · exact (safe_mkdirs_pR (· = some (.file c0 m0)) rfl).mono (fun _ => hR) hR
  rw [if_neg Bool.false_ne_true]
  refine Run.bind (Q := fun _ t => ∃ m, lookup t pHist = some (.file [] m))
    (safe_doOp _ hR (fun t t' _ he => have := openw_at he; ⟨this, hE _ this⟩) hR) (fun _ => ?_)
  -- the write whose error is lost
  refine Run.ignoreErr (Run.writeAll (fun hc => by rw [hc] at hne; cases hne)
    (safe_doOp (Q := fun _ t => HistStates c0 new t) _ hE ?_ ?_))
  · intro t t' ⟨m, hm⟩ he
    have : HistStates c0 new t' := ⟨_, m, write_at he hm, Or.inr (Or.inr (Or.inr (List.nil_append _)))⟩
    exact ⟨this, this⟩
  · intro t ⟨m, hm⟩
    rcases partial_write_at new hm with h | h
    · exact ⟨[], m, h, Or.inr (Or.inl rfl)⟩
    · exact ⟨_, m, h, Or.inr (Or.inr (Or.inl (List.nil_append _)))⟩

def HistOldOrNew (c0 new : Bytes) (t : Tree) : Prop :=
  (∃ m, lookup t pHist = some (.file c0 m)) ∨ ∃ m, lookup t pHist = some (.file new m)

theorem histTmp_ne : pHistTmp ≠ pHist := by decide +kernel

/-- `saveHistF true` (temp file + flush + rename) under EVERY fault and crash point: history.json always holds the
    complete old or the complete new bytes -/
theorem safe_saveHist_atomic (entry : UInt8) (c0 : Bytes) (m0 : Nat) :
    Safe (HistOldOrNew c0 (encodeHist ((parseHist c0).getD [] ++ [entry])))
      (fun t => lookup t pHist = some (.file c0 m0)) (saveHistF true entry)
      (fun _ t => HistOldOrNew c0 (encodeHist ((parseHist c0).getD [] ++ [entry])) t) := by
  unfold saveHistF
  refine Run.read (fun a ha => ?_)
  rw [loadHist_of_lookup ha]
  dsimp only
  generalize encodeHist ((parseHist c0).getD [] ++ [entry]) = new
  have hR : ∀ t, lookup t pHist = some (.file c0 m0) → HistOldOrNew c0 new t := fun t h => Or.inl ⟨m0, h⟩
  have hI : Ignores pHistTmp (fun t => lookup t pHist = some (.file c0 m0)) :=
    ignores_of_lookup histTmp_ne.symm (· = some (.file c0 m0))
  have hI' : Ignores pHistTmp (HistOldOrNew c0 new) :=
    ignores_of_lookup histTmp_ne.symm (fun o => (∃ m, o = some (.file c0 m)) ∨ ∃ m, o = some (.file new m))
  refine Run.bind (Q := fun _ t => lookup t pHist = some (.file c0 m0)) ?_ (fun _ => ?_)
  · exact (safe_mkdirs_pR (· = some (.file c0 m0)) rfl).mono (fun _ => hR) hR
  rw [if_pos rfl]
  refine Run.bind (Run.tryCatch (Q := fun _ t => HistOldOrNew c0 new t) (E := fun _ => HistOldOrNew c0 new) ?_)
    (fun r => ?_)
  · refine ((safe_openw_at hI false).mono (fun _ => hR) hR).bind (fun _ => ?_)
    refine ((safe_writeAll_at hI new).mono (fun _ => hR) hR).tryCatch.bind (fun w => ?_)
    cases w with
    | some e =>
      -- the explicit flush reported the error; the drop of the writer tries once more, then the error goes up
      refine ((safe_writeAll_keeps hI' new).ignoreErr).bind (fun _ => ?_)
      exact Run.bind (Q := fun _ _ => False) (Run.throw e) (fun _ _ _ h => h.elim)
    | none =>
      refine safe_doOp _ (fun t h => hR _ h.1) ?_ (fun t h => hR _ h.1)
      intro t t' ⟨h, mt, hl⟩ he
      obtain ⟨_, hb, _⟩ := rename_file_over_file hl h histTmp_ne he
      exact ⟨Or.inr ⟨mt, hb⟩, Or.inr ⟨mt, hb⟩⟩
  · cases r with
    | none => exact Run.pure ()
    | some e =>
      exact ((safe_doOp_at hI' _ rfl).ignoreErr).bind
        (fun _ => Run.throw _)

/-- what the lock path can hold while `acquire` runs (`l0`: what it held before) -/
def LockStates (l0 : Option Node) (t : Tree) : Prop :=
  lookup t pLock = l0 ∨ lookup t pLock = none ∨ ∃ m, lookup t pLock = some (.file lockText m)

theorem lockTmp_ne : pLockTmp ≠ pLock := by decide +kernel

/-- `acquire` in the publish-by-hard-link variant, under EVERY fault and crash point: the lock path is never observed
    empty or half written -/
theorem safe_acquire_link (stale cleans : Bool) (l0 : Option Node) :
    Safe (LockStates l0) (fun t => lookup t pLock = l0) (acquireF true stale cleans) (fun _ t => LockStates l0 t) := by
  have hR : ∀ t, lookup t pLock = l0 → LockStates l0 t := fun _ h => Or.inl h
  have hI : Ignores pLockTmp (LockStates l0) :=
    ignores_of_lookup lockTmp_ne.symm (fun o => o = l0 ∨ o = none ∨ ∃ m, o = some (.file lockText m))
  unfold acquireF
  refine Run.bind (Q := fun _ t => LockStates l0 t) ?_ (fun _ => ?_)
  · unfold removeOldLock
    refine Run.read (fun a _ => ?_)
    have hpure : Safe (LockStates l0) (fun t => lookup t pLock = l0) (pure ()) (fun _ t => LockStates l0 t) :=
      Run.pure () hR
    split
    · split
      · exact safe_doOp _ hR
          (fun t t' _ he => have : LockStates l0 t' := Or.inr (Or.inl (unlink_at he)); ⟨this, this⟩) hR
      · exact hpure
    · exact hpure
  refine (safe_mkdirs_pR (fun o => o = l0 ∨ o = none ∨ ∃ m, o = some (.file lockText m)) rfl).bind
    (fun _ => ?_)
  rw [if_pos rfl]
  refine (safe_openw_at hI false).bind (fun _ => ?_)
  refine (safe_writeAll_at hI lockText).bind (fun _ => ?_)
  refine Run.bind (Q := fun _ t => LockStates l0 t) ?_ (fun r => ?_)
  · refine (safe_doOp (Q := fun _ t => LockStates l0 t) _ (fun _ h => h.1) ?_ (fun _ h => h.1)).tryOp.weaken
      (fun _ h => h) (fun r _ h => by cases r <;> exact h)
    intro t t' ⟨h, m, hl⟩ he
    obtain ⟨c, m', ha, hb, rfl⟩ := link_ok he
    rw [hl] at ha
    cases ha
    have : LockStates l0 (t ++ [(pLock, .file lockText m)]) := Or.inr (Or.inr ⟨m, lookup_snoc_self _ hb⟩)
    exact ⟨this, this⟩
  refine ((safe_doOp_at hI _ rfl).ignoreErr).bind (fun _ => ?_)
  cases r with
  | none => exact Run.pure ()
  | some e => exact Run.throw _

/-- from a state in mode `J`, `x` ends normally only in mode `J`, and it never ends in a panic -/
abbrev Keeps {α : Type} (J : St → Prop) (x : M α) : Prop :=
  Run J Any (fun _ => True) x (fun _ _ => True) (fun f _ => f ≠ .panic) (fun _ => True)

/-- a call reports I/O errors only (`run_doOp`); what is left to show of a mode is that a normal end keeps it -/
theorem keeps_doOp {J : St → Prop} (hJ : ∀ op s s', J s → doOp op s = .ok () s' → J s') (op : Op) :
    Keeps J (doOp op) := by
  intro s hj _
  have h : Keeps Any (doOp op) :=
    run_doOp op (fun _ _ _ => Fail.noConfusion) (fun _ _ => True.intro) (fun _ _ _ _ => ⟨True.intro, True.intro⟩)
      (fun _ _ => True.intro)
  have h1 := h s True.intro True.intro
  revert h1
  cases hx : doOp op s with
  | ok a s' => exact fun _ => ⟨hJ op s s' hj hx, True.intro⟩
  | err f s' => exact fun h1 => ⟨True.intro, h1.2⟩
  | crash s' => exact id

theorem keeps_reraise {α β : Type} {x : M α} {f : Fail} {P : Tree → Prop} (hx : Keeps Any x) (hf : f ≠ .panic) :
    Run Any Any P (x >>= fun _ => (throw f : M β)) (fun _ _ => False) (fun f _ => f ≠ .panic) (fun _ => True) :=
  (hx.weaken (fun _ _ => True.intro) (fun _ _ h => h)).bind (fun _ => Run.throw f (fun _ _ => hf))

structure Stable (J : St → Prop) (cfg : Cfg) : Prop where
  op : ∀ op, Keeps J (doOp op)
  log : Keeps J (logM cfg)

theorem stable_any (cfg : Cfg) : Stable Any cfg :=
  have hop : ∀ op, Keeps Any (doOp op) := keeps_doOp (fun _ _ _ _ _ => True.intro)
  ⟨hop, run_logM cfg (hop _) (fun _ _ h => ⟨True.intro, h⟩)⟩

theorem keeps_rollbackM (cfg : Cfg) (perf : List (Path × Path)) : Keeps Any (rollbackM cfg perf) :=
  run_rollbackM (stable_any cfg).log
    (fun _ _ => ((stable_any cfg).op _).tryOp.weaken (fun _ h => h) (fun _ _ _ => True.intro))
    (fun _ _ => Fail.noConfusion) (fun _ h => h) perf

def NotYet (k : Nat) (e : Errno) (s : St) : Prop := s.inj = .fail k e ∧ s.n ≤ k

/-- `x` does not turn the injected failure into success: a normal end of `x`, started before the fault point, has not
    reached it -/
abbrev Reports {α : Type} (k : Nat) (e : Errno) (x : M α) : Prop := Keeps (NotYet k e) x

theorem stable_notYet {cfg : Cfg} (k : Nat) (e : Errno) (hlog : LogReports cfg) : Stable (NotYet k e) cfg := by
  have hop : ∀ op, Keeps (NotYet k e) (doOp op) := by
    refine keeps_doOp (fun op s s' hj hx => ?_)
    have hk : k ≠ s.n := by
      intro hk
      rw [doOp_fail_due (hk ▸ hj.1)] at hx
      cases hx
    rw [doOp_not_due (by rw [hj.1]; exact hk)] at hx
    unfold stepOp at hx
    split at hx <;> cases hx
    exact ⟨hj.1, Nat.succ_le_of_lt (Nat.lt_of_le_of_ne hj.2 (Ne.symm hk))⟩
  refine ⟨hop, ?_⟩
  rcases logM_cases cfg with hc | ⟨hc, _⟩ | ⟨_, hn⟩
  · rw [hc]
    exact Run.pure ()
  · rw [hc]
    exact hop _
  · exact absurd hlog hn

/-- the handler of both loops: log, roll back, re-raise -/
theorem keeps_fail {α : Type} (cfg : Cfg) (e : Fail) (he : e ≠ .panic) (l : List (Path × Path)) {P : Tree → Prop} :
    Run Any Any P (do logM cfg; rollbackM cfg l; (throw e : M α)) (fun _ _ => False) (fun f _ => f ≠ .panic)
      (fun _ => True) :=
  ((stable_any cfg).log.weaken (fun _ _ => True.intro) (fun _ _ h => h)).bind
    (fun _ => keeps_reraise (keeps_rollbackM cfg l) he)

section keeps
variable {J : St → Prop} {cfg : Cfg} (h : Stable J cfg)
include h

theorem keeps_replaceFileX (ex : Bool) (f : Path) (c' : Bytes) (m : Nat) : Keeps J (replaceFileX ex f c' m) := by
  exact (h.op _).bind (fun _ => (Run.writeAll (fun _ _ h => h) (h.op _)).bind (fun _ => (h.op _).bind (fun _ => h.op _)))

theorem keeps_replaceFileFX (ex clean : Bool) (f : Path) (c' : Bytes) (m : Nat) :
    Keeps J (replaceFileFX ex clean f c' m) := by
  unfold replaceFileFX
  cases clean with
  | false => exact keeps_replaceFileX h ex f c' m
  | true =>
    exact (keeps_replaceFileX h ex f c' m).tryCatch_raise (Run.pure ())
      (fun e he => keeps_reraise (((stable_any cfg).op _).ignoreErr (fun _ h => h) (fun _ _ _ => True.intro)) he)

theorem keeps_editOne (clean : Bool) (hs : List Hunk) (f : Path) (c : Bytes) (m : Nat) :
    Keeps J (editOneF clean cfg hs f c m) := by
  unfold editOneF
  refine h.log.bind (fun _ => ?_)
  cases happ : Edits.applyEdits c (editsFor hs f) with
  | error e =>
    cases e with
    | panic => exact absurd happ (Edits.applyEdits_ne_panic _ _)
    | mismatch => exact Run.throw _ (fun _ _ => Fail.noConfusion) (fun _ _ => True.intro)
  | ok c' => exact (keeps_replaceFileFX h _ clean f c' m).bind (fun _ => h.log)

theorem keeps_contentLoop (clean : Bool) (hs : List Hunk) : ∀ fs : List Path, Keeps J (contentLoopF clean cfg hs fs) := by
  have hu : Keeps J (throw .unreadable : M Unit) := Run.throw _ (fun _ _ => Fail.noConfusion) (fun _ _ => True.intro)
  intro fs
  induction fs with
  | nil => exact Run.pure ()
  | cons f fs ih =>
    unfold contentLoopF
    refine Run.read (fun a _ => ?_)
    split
    · split
      · exact hu
      · exact (keeps_editOne h clean hs f _ _).tryCatch_raise ih (fun e he => keeps_fail cfg e he [])
    · exact hu

theorem keeps_renameLoop (real : Bool) : ∀ (rs : List Ren) (perf exec : List (Path × Path)),
    Keeps J (renameLoopF real cfg perf exec rs) := by
  intro rs
  induction rs with
  | nil => intro perf exec; exact Run.pure perf
  | cons r rs ih =>
    intro perf exec
    unfold renameLoopF
    refine (Run.repeatM h.log _).bind (fun _ => ?_)
    dsimp only
    refine (h.log.bind (fun _ => h.op _)).tryCatch_raise ?_ (fun e he => keeps_fail cfg e he _)
    exact h.log.tryCatch_raise (ih _ _) (fun e he => keeps_fail cfg e he _)

end keeps

end ExecL
