import RModel.Model.Signals
/-
  Lemmas for C13 (`Props/C13.lean`).  A run that does not exit inside a handler applies every effect and ors the
  flag-storing events into the flag (`runFrom_not_exited`), whatever the handler table; so a statement about the
  world of a signalled run needs only a reason why no handler exits (`not_exited_of_quiet`,
  `not_exited_of_noPromptOn`), or, for `pre ; prompt ; post`, a description of the one place where one can
  (`exit_in_prompt`).
-/

namespace Signals

variable {ε ω : Type}

def NoExitAlways (H : Handlers) : Prop := ∀ s, (H s).exitAlways = none

def flagged (H : Handlers) (items : List (Item ε)) : Bool :=
  items.any (fun i => match i with | .sig s => (H s).setsFlag | _ => false)

def withPrompt (pre post : List ε) : List (Item ε) :=
  pre.map .eff ++ [.promptOn, .promptOff] ++ post.map .eff

theorem mem_erase {i : Item ε} {items : List (Item ε)} : i ∈ erase items ↔ i ∈ items ∧ isSig i = false := by
  simp [erase]

theorem erase_append (a b : List (Item ε)) : erase (a ++ b) = erase a ++ erase b :=
  List.filter_append ..

theorem erase_map_eff (l : List ε) : erase (l.map Item.eff) = l.map Item.eff :=
  List.filter_eq_self.2 fun i hi => by
    obtain ⟨e, _, rfl⟩ := List.mem_map.1 hi
    rfl

theorem erase_withPrompt (pre post : List ε) : erase (withPrompt pre post) = withPrompt pre post := by
  unfold withPrompt
  rw [erase_append, erase_append, erase_map_eff, erase_map_eff]
  rfl

theorem flagged_erase (H : Handlers) (items : List (Item ε)) : flagged H (erase items) = false :=
  List.any_eq_false.2 fun i hi => by
    cases i with
    | sig s => cases (mem_erase.1 hi).2
    | _ => exact Bool.false_ne_true

theorem effects_erase (items : List (Item ε)) : effects (erase items) = effects items := by
  induction items with
  | nil => rfl
  | cons i r ih =>
    cases i with
    | eff e => exact congrArg (e :: ·) ih
    | _ => exact ih

theorem effects_append (a b : List (Item ε)) : effects (a ++ b) = effects a ++ effects b := by
  induction a with
  | nil => rfl
  | cons i r ih =>
    cases i with
    | eff e => exact congrArg (e :: ·) ih
    | _ => exact ih

theorem effects_map_eff (es : List ε) : effects (es.map Item.eff) = es := by
  induction es with
  | nil => rfl
  | cons e r ih => exact congrArg (e :: ·) ih

theorem effects_withPrompt (pre post : List ε) : effects (withPrompt pre post) = pre ++ post := by
  unfold withPrompt
  rw [effects_append, effects_append, effects_map_eff, effects_map_eff]
  exact congrArg (· ++ post) (List.append_nil pre)

theorem applyAll_append (ap : ε → ω → ω) (w : ω) (a b : List ε) :
    applyAll ap w (a ++ b) = applyAll ap (applyAll ap w a) b :=
  List.foldl_append

theorem applyAll_invariant {τ : Type} (ap : ε → ω → ω) (f : ω → τ) (es : List ε)
    (h : ∀ e ∈ es, ∀ w, f (ap e w) = f w) (w : ω) : f (applyAll ap w es) = f w := by
  induction es generalizing w with
  | nil => rfl
  | cons e r ih =>
    exact (ih (fun e' he' => h e' (List.mem_cons_of_mem _ he')) (ap e w)).trans (h e List.mem_cons_self w)

theorem relWorld_facts (w : World) :
    (relWorld w).lock = false ∧ (relWorld w).user = w.user ∧ (relWorld w).history = w.history := by
  unfold relWorld
  cases h : w.lock <;> simp [h]

section runs
variable {H : Handlers} {ap : ε → ω → ω} {rel : ω → ω} {st : St ω}

theorem runFrom_cons (i : Item ε) (r : List (Item ε)) :
    runFrom H ap rel st (i :: r) = runFrom H ap rel (step H ap rel st i) r := rfl

theorem step_exited {c : Nat} (he : st.exited = some c) (i : Item ε) : step H ap rel st i = st := by
  unfold step
  rw [he]
  rfl

theorem step_eff (he : st.exited = none) (e : ε) :
    step H ap rel st (.eff e) = { st with world := ap e st.world } := by
  unfold step
  rw [he]
  rfl

theorem step_promptOn (he : st.exited = none) : step H ap rel st .promptOn = { st with prompt := true } := by
  unfold step
  rw [he]
  rfl

theorem step_promptOff (he : st.exited = none) : step H ap rel st .promptOff = { st with prompt := false } := by
  unfold step
  rw [he]
  rfl

theorem step_sig (he : st.exited = none) (s : Sig) : step H ap rel st (.sig s) = handle rel (H s) st := by
  unfold step
  rw [he]
  rfl

theorem handle_quiet {h : Handler} (hA : h.exitAlways = none) (hP : st.prompt = false ∨ h.exitUnderPrompt = none) :
    handle rel h st = { st with flag := st.flag || h.setsFlag } := by
  have hq : (if st.prompt then h.exitUnderPrompt else none) = none := by
    cases hP with
    | inl hp => rw [hp]; rfl
    | inr hu => rw [hu]; exact ite_self none
  unfold handle
  rw [hA, hq]
  cases h.setsFlag <;> simp

theorem handle_exit {h : Handler} {c : Nat} (hA : h.exitAlways = none) (hp : st.prompt = true)
    (hu : h.exitUnderPrompt = some c) :
    handle rel h st = { st with exited := some c, world := exitWorld rel h st.world } := by
  unfold handle
  rw [hA, hp, hu]
  rfl

theorem handle_of_not_exited {h : Handler} (hx : (handle rel h st).exited = none) :
    handle rel h st = { st with flag := st.flag || h.setsFlag } := by
  cases hA : h.exitAlways with
  | some c => rw [handle, hA] at hx; cases hx
  | none =>
    cases hu : h.exitUnderPrompt with
    | none => exact handle_quiet hA (Or.inr hu)
    | some c =>
      rcases Bool.eq_false_or_eq_true st.prompt with hp | hp
      · rw [handle_exit hA hp hu] at hx; cases hx
      · exact handle_quiet hA (Or.inl hp)

theorem frozen {c : Nat} (he : st.exited = some c) (items : List (Item ε)) : runFrom H ap rel st items = st := by
  induction items with
  | nil => rfl
  | cons i r ih => rw [runFrom_cons, step_exited he]; exact ih

theorem not_exited_of_runFrom {items : List (Item ε)} (h : (runFrom H ap rel st items).exited = none) :
    st.exited = none := by
  cases he : st.exited with
  | none => rfl
  | some c =>
    rw [frozen he, he] at h
    exact h

theorem runFrom_not_exited {items : List (Item ε)} (h : (runFrom H ap rel st items).exited = none) :
    (runFrom H ap rel st items).world = applyAll ap st.world (effects items) ∧
    (runFrom H ap rel st items).flag = (st.flag || flagged H items) := by
  induction items generalizing st with
  | nil => exact ⟨rfl, (Bool.or_false _).symm⟩
  | cons i r ih =>
    have he := not_exited_of_runFrom h
    rw [runFrom_cons] at h ⊢
    cases i with
    | eff e => rw [step_eff he] at h ⊢; exact ih h
    | promptOn => rw [step_promptOn he] at h ⊢; exact ih h
    | promptOff => rw [step_promptOff he] at h ⊢; exact ih h
    | sig s =>
      rw [step_sig he] at h ⊢
      have hx := not_exited_of_runFrom h
      rw [handle_of_not_exited hx] at h ⊢
      have := ih h
      rw [Bool.or_assoc] at this
      exact this

theorem not_exited_of_quiet {items : List (Item ε)}
    (hq : ∀ s, .sig s ∈ items → (H s).exitAlways = none ∧ (H s).exitUnderPrompt = none) (he : st.exited = none) :
    (runFrom H ap rel st items).exited = none := by
  induction items generalizing st with
  | nil => exact he
  | cons i r ih =>
    have hr : ∀ s, .sig s ∈ r → _ := fun s hs => hq s (List.mem_cons_of_mem _ hs)
    rw [runFrom_cons]
    cases i with
    | eff e => rw [step_eff he]; exact ih hr he
    | promptOn => rw [step_promptOn he]; exact ih hr he
    | promptOff => rw [step_promptOff he]; exact ih hr he
    | sig s =>
      obtain ⟨hA, hu⟩ := hq s List.mem_cons_self
      rw [step_sig he, handle_quiet hA (Or.inr hu)]
      exact ih hr he

theorem not_exited_of_noPromptOn (hH : NoExitAlways H) {items : List (Item ε)} (hon : .promptOn ∉ items)
    (he : st.exited = none) (hp : st.prompt = false) : (runFrom H ap rel st items).exited = none := by
  induction items generalizing st with
  | nil => exact he
  | cons i r ih =>
    have hr : .promptOn ∉ r := fun h => hon (List.mem_cons_of_mem _ h)
    rw [runFrom_cons]
    cases i with
    | eff e => rw [step_eff he]; exact ih hr he hp
    | promptOn => exact absurd List.mem_cons_self hon
    | promptOff => rw [step_promptOff he]; exact ih hr he rfl
    | sig s => rw [step_sig he, handle_quiet (hH s) (Or.inl hp)]; exact ih hr he hp

theorem run_not_exited {w : ω} {items : List (Item ε)} (h : (run H ap rel w items).exited = none) :
    (run H ap rel w items).world = (run H ap rel w (erase items)).world ∧
    (run H ap rel w items).flag = flagged H items := by
  have he : (run H ap rel w (erase items)).exited = none :=
    not_exited_of_quiet (fun s hs => nomatch (mem_erase.1 hs).2) rfl
  unfold run at h he ⊢
  rw [(runFrom_not_exited h).1, (runFrom_not_exited he).1, effects_erase]
  exact ⟨rfl, (runFrom_not_exited h).2⟩

/-- Inside the prompt (the program still has `promptOff ; post` to go): an exit happens in a handler that has one
    under the prompt guard, before anything else changed the world. -/
theorem exit_in_prompt (hH : NoExitAlways H) {post : List ε} {items : List (Item ε)} (he : st.exited = none)
    (hp : st.prompt = true) (herase : erase items = .promptOff :: post.map .eff) {c : Nat}
    (hc : (runFrom H ap rel st items).exited = some c) :
    ∃ s, (H s).exitUnderPrompt = some c ∧ (runFrom H ap rel st items).world = exitWorld rel (H s) st.world := by
  induction items generalizing st with
  | nil => cases herase
  | cons i r ih =>
    rw [runFrom_cons] at hc ⊢
    cases i with
    | eff e => cases herase
    | promptOn => cases herase
    | promptOff =>
      -- the rest of the run never activates the guard again
      have ht : erase r = post.map .eff := List.tail_eq_of_cons_eq herase
      have hon : .promptOn ∉ r := fun h => by simpa [ht] using mem_erase.2 ⟨h, rfl⟩
      rw [step_promptOff he, not_exited_of_noPromptOn hH hon (st := { st with prompt := false }) he rfl] at hc
      cases hc
    | sig s =>
      rw [step_sig he] at hc ⊢
      cases hu : (H s).exitUnderPrompt with
      | none =>
        rw [handle_quiet (hH s) (Or.inr hu)] at hc ⊢
        exact ih (st := { st with flag := st.flag || (H s).setsFlag }) he hp herase hc
      | some c0 =>
        rw [handle_exit (hH s) hp hu, frozen rfl] at hc ⊢
        cases hc
        exact ⟨s, hu, rfl⟩

end runs

end Signals
