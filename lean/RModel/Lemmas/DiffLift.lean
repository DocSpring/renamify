import RModel.Lemmas.Hunks
import RModel.Lemmas.Lines
import RModel.Lemmas.Utf8
/- from the line to the file: the `+` text of a diff block is the line with the same NUMBER in the applied file -/
namespace Hunks
open Edits Matcher

theorem lineOf_middle (A P0 R : Bytes) (hA : A = [] ∨ ∃ A0, A = A0 ++ [10]) (h0 : nlCount P0 = 0) :
    lineOf (A ++ (P0 ++ [10] ++ R)) (nlCount A + 1) = some (P0 ++ [10]) := by
  have hls : lineStart (A ++ (P0 ++ [10] ++ R)) A.length = A.length := by
    rcases hA with rfl | ⟨A0, rfl⟩
    · rfl
    · exact lineStart_after_nl A0 _ 0
  have h := lineOf_at (A ++ (P0 ++ [10] ++ R)) A.length (by simp; omega)
  rw [List.take_left' rfl, hls, List.drop_left' rfl] at h
  rw [lineOf, Nat.add_sub_cancel, h, List.append_assoc, takeLine_append_noNl _ h0]
  rfl

theorem nlCount_spec (c : Bytes) (off : Nat) (es : List Edit) (h : Consistent c off es)
    (hnl : ∀ e ∈ es, nlCount e.before = 0 ∧ nlCount e.after = 0 ∧ e.start < e.stop) :
    nlCount (spec c off es) = nlCount (c.drop off) := by
  induction es generalizing off with
  | nil => rfl
  | cons e es ih =>
    obtain ⟨h1, h2, _, _, _, hb, _, hrest⟩ := h
    obtain ⟨n1, n2, _⟩ := hnl e List.mem_cons_self
    have hd := congrArg nlCount (drop_decomp c h1 h2)
    rw [nlCount_append, nlCount_append, hb, n1, Nat.zero_add] at hd
    rw [hd, spec, nlCount_append, nlCount_append, ih e.stop hrest (fun x hx => hnl x (List.mem_cons_of_mem _ hx)), n2,
      Nat.add_zero]

theorem boundary_of_snoc {A0 : Bytes} {x : UInt8} {i : Nat} (h : isCharBoundary (A0 ++ [x]) i = true)
    (hi : i ≤ A0.length) : isCharBoundary A0 i = true := by
  refine Utf8.isCharBoundary_iff.mpr ⟨hi, fun b h0 hb => (Utf8.isCharBoundary_iff.mp h).2 b h0 ?_⟩
  rw [List.getElem?_append_left (List.getElem?_eq_some_iff.mp hb).1]
  exact hb

theorem consistent_of_snoc_nl (A0 : Bytes) (off : Nat) (es : List Edit) (hoff : off ≤ A0.length)
    (h : Consistent (A0 ++ [10]) off es)
    (hnl : ∀ e ∈ es, nlCount e.before = 0 ∧ nlCount e.after = 0 ∧ e.start < e.stop) : Consistent A0 off es := by
  induction es generalizing off with
  | nil => exact hoff
  | cons e es ih =>
    obtain ⟨h1, h2, h3, b1, b2, hb, ha, hrest⟩ := h
    obtain ⟨n1, _, n2⟩ := hnl e List.mem_cons_self
    -- the edit ends before the final newline: its text would contain it otherwise
    have h3' : e.stop ≤ A0.length + 1 := by rwa [List.length_append] at h3
    have hstop : e.stop ≤ A0.length := by
      apply Nat.le_of_not_lt
      intro hlt
      rw [← hb, List.take_of_length_le (by rw [List.length_append]; exact hlt),
        List.drop_append_of_le_length (by omega), nlCount_append] at n1
      exact absurd n1 (Nat.succ_ne_zero _)
    exact ⟨h1, h2, hstop, boundary_of_snoc b1 (by omega), boundary_of_snoc b2 hstop,
      by rw [← hb, List.take_append_of_le_length hstop], ha,
      ih e.stop hstop hrest fun x hx => hnl x (List.mem_cons_of_mem _ hx)⟩

theorem spec_snoc_nl (A0 : Bytes) (es : List Edit) (h : Consistent (A0 ++ [10]) 0 es)
    (hnl : ∀ e ∈ es, nlCount e.before = 0 ∧ nlCount e.after = 0 ∧ e.start < e.stop) :
    Consistent A0 0 es ∧ spec (A0 ++ [10]) 0 es = spec A0 0 es ++ [10] := by
  have hc := consistent_of_snoc_nl A0 0 es (Nat.zero_le _) h hnl
  have := spec_append A0 [10] 0 es [] hc
  exact ⟨hc, by simpa [shift, spec] using this⟩

theorem spec_complete_lines (A : Bytes) (EA : List Edit) (hA : A = [] ∨ ∃ A0, A = A0 ++ [10])
    (h : Consistent A 0 EA)
    (hnl : ∀ e ∈ EA, nlCount e.before = 0 ∧ nlCount e.after = 0 ∧ e.start < e.stop) :
    (spec A 0 EA = [] ∨ ∃ S0, spec A 0 EA = S0 ++ [10]) ∧ nlCount (spec A 0 EA) = nlCount A := by
  refine ⟨?_, nlCount_spec A 0 EA h hnl⟩
  rcases hA with rfl | ⟨A0, rfl⟩
  · cases EA with
    | nil => exact Or.inl rfl
    | cons e es =>
      have := (hnl e List.mem_cons_self).2.2
      have : e.stop ≤ 0 := h.2.2.1
      omega
  · exact Or.inr ⟨_, (spec_snoc_nl A0 EA h hnl).2⟩

theorem spec_one_line (L0 : Bytes) (EL : List Edit) (h : Consistent (L0 ++ [10]) 0 EL)
    (hnl : ∀ e ∈ EL, nlCount e.before = 0 ∧ nlCount e.after = 0 ∧ e.start < e.stop) (h0 : nlCount L0 = 0) :
    ∃ P0, spec (L0 ++ [10]) 0 EL = P0 ++ [10] ∧ nlCount P0 = 0 := by
  obtain ⟨hc, hs⟩ := spec_snoc_nl L0 EL h hnl
  exact ⟨spec L0 0 EL, hs, (nlCount_spec L0 0 EL hc hnl).trans h0⟩

end Hunks
