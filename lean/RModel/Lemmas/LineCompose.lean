import RModel.Lemmas.LineMatch
import RModel.Lemmas.CaseModelVariant
import RModel.Lemmas.Edits
import RModel.Lemmas.Utf8
/-
  C06, clause 1: the variant table of a term pair typed in boundary-visible styles — the scanner's own `VariantMap` (lookup
  after a sequence of inserts, `get`) and the CLI's table from `case_model.rs` — and the whole pipeline on a line
  `d₁ ++ x ++ d₂` with one occurrence of an unambiguous key `x`.
-/
open B CaseModel

namespace LinePipeline

def SMap.entries (m : SMap) (k : Bytes) : List (Option Style × Bytes) := (m.lookup k).getD []

/-- `insert` appends to the entries of `k`, which it creates if need be, and leaves every other key alone -/
theorem lookup_insert (m : SMap) (k : Bytes) (st : Option Style) (v : Bytes) (k' : Bytes) :
    (m.insert k st v).lookup k' = if k' == k then some (m.entries k ++ [(st, v)]) else m.lookup k' := by
  induction m with
  | nil => rw [SMap.insert, List.lookup_cons]; cases k' == k <;> rfl
  | cons e m ih =>
    obtain ⟨k0, l⟩ := e
    rw [SMap.insert]
    split
    · rename_i h
      cases beq_iff_eq.mp h
      rw [List.lookup_cons, List.lookup_cons, SMap.entries, List.lookup_cons_self]
      cases k' == k <;> rfl
    · rename_i h
      have hne : k ≠ k0 := fun hh => h (hh ▸ beq_self_eq_true k)
      have hk : SMap.entries ((k0, l) :: m) k = SMap.entries m k := by
        rw [SMap.entries, SMap.entries, List.lookup_cons, beq_eq_false_iff_ne.mpr hne]
      rw [List.lookup_cons, List.lookup_cons, ih, hk]
      cases h0 : k' == k0
      · rfl
      · rw [beq_iff_eq.mp h0, beq_eq_false_iff_ne.mpr hne.symm]; rfl

theorem entries_insert (m : SMap) (k : Bytes) (st : Option Style) (v : Bytes) (k' : Bytes) :
    (m.insert k st v).entries k' = if k' == k then m.entries k ++ [(st, v)] else m.entries k' := by
  rw [SMap.entries, lookup_insert]
  cases k' == k <;> rfl

def entriesOf (k : Bytes) (ins : List (Bytes × Option Style × Bytes)) : List (Option Style × Bytes) :=
  (ins.filter (fun e => k == e.1)).map (fun e => (e.2.1, e.2.2))

theorem entries_foldl (k : Bytes) : ∀ (ins : List (Bytes × Option Style × Bytes)) (m : SMap),
    (ins.foldl (fun m e => m.insert e.1 e.2.1 e.2.2) m).entries k = m.entries k ++ entriesOf k ins
  | [], m => (List.append_nil _).symm
  | (k0, st, v) :: ins, m => by
    rw [List.foldl_cons, entries_foldl k ins, entries_insert, entriesOf, entriesOf, List.filter_cons]
    cases h : k == k0
    · rfl
    · cases beq_iff_eq.mp h
      exact List.append_assoc ..

theorem keys_insert (m : SMap) (k : Bytes) (st : Option Style) (v : Bytes) (k' : Bytes) :
    k' ∈ (m.insert k st v).map (·.1) ↔ k' = k ∨ k' ∈ m.map (·.1) := by
  rw [List.mem_map_fst_iff, List.mem_map_fst_iff, lookup_insert]
  cases h : k' == k
  · rw [or_iff_right (beq_eq_false_iff_ne.mp h)]; rfl
  · exact iff_of_true rfl (Or.inl (beq_iff_eq.mp h))

theorem keys_foldl (k : Bytes) : ∀ (ins : List (Bytes × Option Style × Bytes)) (m : SMap),
    k ∈ (ins.foldl (fun m e => m.insert e.1 e.2.1 e.2.2) m).map (·.1) ↔ k ∈ m.map (·.1) ∨ k ∈ ins.map (·.1)
  | [], m => by rw [List.foldl_nil, List.map_nil, or_iff_left List.not_mem_nil]
  | e :: ins, m => by
    rw [List.foldl_cons, keys_foldl k ins, keys_insert, List.map_cons, List.mem_cons, or_assoc, or_left_comm]

theorem mem_insertSorted {k x : Bytes} {l : List Bytes} : x ∈ insertSorted k l ↔ x = k ∨ x ∈ l :=
  List.mem_insertion (f := insertSorted k) rfl fun y ys => by
    rw [insertSorted]
    split
    · exact .inl rfl
    · exact .inr rfl

theorem mem_keys {m : SMap} {k : Bytes} : k ∈ m.keys ↔ k ∈ m.map (·.1) := by
  unfold SMap.keys
  generalize m.map (·.1) = l
  induction l with
  | nil => simp
  | cons a l ih => rw [List.foldr_cons, mem_insertSorted, ih, List.mem_cons]

theorem get_of_entries {m : SMap} {k v : Bytes} (hne : m.entries k ≠ []) (hall : ∀ e ∈ m.entries k, e.2 = v) :
    m.get k = some v := by
  unfold SMap.entries at hne hall
  unfold SMap.get
  cases hl : m.lookup k with
  | none => rw [hl] at hne; exact absurd rfl hne
  | some l =>
    rw [hl] at hne hall
    simp only [Option.getD_some] at hne hall
    match l, hne, hall with
    | [e], _, hall => simp [hall e (List.mem_singleton.mpr rfl)]
    | e :: e' :: l', _, hall =>
      simp only []
      split
      · rename_i e'' hf
        rw [hall e'' (List.mem_of_find?_eq_some hf)]
      · simp [hall e (List.mem_cons_self ..)]

variable {A : Acr}

theorem variantInserts_words (hA : AcrOk A) (hS : AcrStable A) {ws_s ws_r : List Bytes} {sst rst : Style}
    (hws : Words ws_s) (hwr : Words ws_r) (hNs : Neutral A ws_s) (hNr : Neutral A ws_r)
    (hsst : sst ∈ V12) (hrst : rst ∈ V12)
    (hUs : sst ∈ upperStyles → UpperSafe A ws_s) (hUr : rst ∈ upperStyles → UpperSafe A ws_r)
    (styles : List Style) (sing plur : Bytes → Option Bytes) :
    variantInserts A (some styles) false sing plur (toStyle A ws_s sst) (toStyle A ws_r rst) =
      styles.map (fun st' => (toStyle A ws_s st', some st', toStyle A ws_r st')) := by
  simp only [variantInserts, Option.isNone_some, Bool.false_eq_true, ↓reduceIte, List.nil_append, Option.getD_some,
    variantModels, List.map_cons, List.map_nil, toStyle_parse_toStyle hA hS hws hNs hsst hUs,
    toStyle_parse_toStyle hA hS hwr hNr hrst hUr]
  induction styles with
  | nil => rfl
  | cons st' l ih => simp only [List.flatMap_cons, List.map_cons, List.singleton_append, ih]

theorem lookup_map_single (k : Bytes) : ∀ (m : List (Bytes × Bytes)),
    (m.map (fun e => (e.1, [((none : Option Style), e.2)]))).lookup k = (m.lookup k).map (fun v => [(none, v)])
  | [] => rfl
  | e :: m => by
    simp only [List.map_cons, List.lookup]
    cases h : k == e.1 with
    | true => simp
    | false => simpa using lookup_map_single k m

/-- the CLI table of a term pair typed in boundary-visible styles, explicit style list, plural variants off:
    its keys are renderings of the search words, and the rendering in an enabled boundary-visible style `st` maps to the
    replacement words in `st` — whatever style the replacement was TYPED in -/
theorem cli_map_words (hA : AcrOk A) (hS : AcrStable A) {ws_s ws_r : List Bytes} {sst rst st : Style}
    (h2 : 2 ≤ ws_s.length) (hws : Words ws_s) (hwr : Words ws_r) (hNs : Neutral A ws_s) (hNr : Neutral A ws_r)
    (hsst : sst ∈ V12) (hrst : rst ∈ V12)
    (hUs : sst ∈ upperStyles → UpperSafe A ws_s) (hUr : rst ∈ upperStyles → UpperSafe A ws_r)
    (styles : List Style) (sing plur : Bytes → Option Bytes) (hst : st ∈ styles) (hst12 : st ∈ V12) :
    let vm := cliVariantMap A (some styles) false sing plur (toStyle A ws_s sst) (toStyle A ws_r rst)
    (∀ k ∈ vm.keys, ∃ st', k = toStyle A ws_s st') ∧ toStyle A ws_s st ∈ vm.keys ∧
      vm.get (toStyle A ws_s st) = some (toStyle A ws_r st) := by
  intro vm
  have hne := (render_ends A (List.ne_nil_of_two h2) hws st).ne_nil
  have hlk := variant_lookup (A := A) hA hS (styles := some styles) (plurals := false) (sing := sing) (plur := plur)
    (isAmb := isAmbiguous A (toStyle A ws_s sst) Gen.allStyles) h2 hws hwr hNs hNr hsst hrst hUs hUr
    (by simpa using hst) hst12 (fun _ _ m hm => absurd hm (by simp [variantModels])) (by simp)
  have hvl : vm.lookup (toStyle A ws_s st) = some [(none, toStyle A ws_r st)] := by
    show (List.map _ (List.filter _ _)).lookup _ = _
    rw [lookup_map_single, List.lookup_filter_key (p := fun k : Bytes => !k.isEmpty) (by simpa using hne), hlk]; rfl
  refine ⟨?_, mem_keys.mpr (List.mem_map_fst_iff.mpr (by rw [hvl]; rfl)), ?_⟩
  · intro k hk
    -- a key of the converted table is a key of `buildMap`, which answers where its rows do
    have := mem_keys.mp hk
    simp only [vm, cliVariantMap, List.map_map, List.mem_map, List.mem_filter, Function.comp] at this
    obtain ⟨e, ⟨he, _⟩, rfl⟩ := this
    have := List.mem_map_fst_iff.mp (List.mem_map_of_mem (f := (·.1)) he)
    simp only [variantMap, Option.isNone_some, Bool.false_and, Bool.false_eq_true, ↓reduceIte, Option.getD_some,
      lookup_buildMap] at this
    obtain ⟨e', he', hk'⟩ := List.mem_map.mp (List.mem_map_fst_iff.mpr this)
    obtain ⟨st', _, m, hm, rfl⟩ := mem_variantRows.mp he'
    simp only [variantModels, Bool.false_eq_true, ↓reduceIte, List.mem_cons, List.not_mem_nil, or_false] at hm
    subst hm
    exact ⟨st', hk'.symm.trans (toStyle_parse_toStyle hA hS hws hNs hsst hUs st')⟩
  · simp only [SMap.get, hvl]

/-- the scanner's own table (core API, no atomic configuration) of such a term pair: the same three facts.  Several styles
    may insert under one key; they are the same style, because renderings of two or more words differ from style to style -/
theorem scan_map_words (hA : AcrOk A) (hS : AcrStable A) {ws_s ws_r : List Bytes} {sst rst st : Style}
    (h2 : 2 ≤ ws_s.length) (hws : Words ws_s) (hwr : Words ws_r) (hNs : Neutral A ws_s) (hNr : Neutral A ws_r)
    (hsst : sst ∈ V12) (hrst : rst ∈ V12)
    (hUs : sst ∈ upperStyles → UpperSafe A ws_s) (hUr : rst ∈ upperStyles → UpperSafe A ws_r)
    (styles : List Style) (sing plur : Bytes → Option Bytes) (hst : st ∈ styles) (hst12 : st ∈ V12) :
    let vm := scanVariantMap A (some styles) false sing plur (toStyle A ws_s sst) (toStyle A ws_r rst)
    (∀ k ∈ vm.keys, ∃ st', k = toStyle A ws_s st') ∧ toStyle A ws_s st ∈ vm.keys ∧
      vm.get (toStyle A ws_s st) = some (toStyle A ws_r st) := by
  intro vm
  have hvm : vm = (styles.map (fun st' => (toStyle A ws_s st', some st', toStyle A ws_r st'))).foldl
      (fun (m : SMap) e => SMap.insert m e.1 e.2.1 e.2.2) ([] : SMap) := by
    rw [← variantInserts_words hA hS hws hwr hNs hNr hsst hrst hUs hUr styles sing plur]; rfl
  have hkeys : ∀ k, k ∈ vm.keys ↔ ∃ st' ∈ styles, k = toStyle A ws_s st' := by
    intro k
    rw [mem_keys, hvm, keys_foldl, List.map_nil, or_iff_right List.not_mem_nil, List.map_map, List.mem_map]
    exact exists_congr fun st' => and_congr_right fun _ => eq_comm
  refine ⟨fun k hk => ?_, (hkeys _).mpr ⟨st, hst, rfl⟩, get_of_entries ?_ ?_⟩
  · obtain ⟨st', _, rfl⟩ := (hkeys k).mp hk
    exact ⟨st', rfl⟩
  · rw [hvm, entries_foldl]
    simp only [SMap.entries, List.lookup, Option.getD_none, List.nil_append, entriesOf, ne_eq, List.map_eq_nil_iff,
      List.filter_eq_nil_iff, List.mem_map]
    exact fun hall => hall _ ⟨st, hst, rfl⟩ (by simp)
  · intro e he
    rw [hvm, entries_foldl] at he
    simp only [SMap.entries, List.lookup, Option.getD_none, List.nil_append, entriesOf, List.mem_map,
      List.mem_filter, beq_iff_eq] at he
    obtain ⟨e', ⟨⟨st', _, rfl⟩, hk⟩, rfl⟩ := he
    cases toStyle_inj A h2 hws hst12 hk.symm
    rfl

/-- the variant table of a call (either path) whose terms are typed in boundary-visible styles, explicit style list, plural
    variants off -/
theorem vmap_words {cfg : Cfg} (hA : AcrOk cfg.A) (hS : AcrStable cfg.A) {ws_s ws_r : List Bytes}
    {sst rst st : Style} {styles : List Style}
    (h2 : 2 ≤ ws_s.length) (hws : Words ws_s) (hwr : Words ws_r)
    (hNs : Neutral cfg.A ws_s) (hNr : Neutral cfg.A ws_r) (hsst : sst ∈ V12) (hrst : rst ∈ V12)
    (hUs : sst ∈ upperStyles → UpperSafe cfg.A ws_s) (hUr : rst ∈ upperStyles → UpperSafe cfg.A ws_r)
    (hsearch : cfg.search = toStyle cfg.A ws_s sst) (hreplace : cfg.replace = toStyle cfg.A ws_r rst)
    (hstyles : buildStylesList cfg.opts = some styles) (hpl : cfg.plurals = false) (hen : st ∈ styles)
    (hvis : st ∈ V12) :
    toStyle cfg.A ws_s st ∈ cfg.vmap.keys ∧ (∀ k ∈ cfg.vmap.keys, Ends k) ∧
      cfg.vmap.get (toStyle cfg.A ws_s st) = some (toStyle cfg.A ws_r st) := by
  have hm : (∀ k ∈ cfg.vmap.keys, ∃ st', k = toStyle cfg.A ws_s st') ∧ toStyle cfg.A ws_s st ∈ cfg.vmap.keys ∧
      cfg.vmap.get (toStyle cfg.A ws_s st) = some (toStyle cfg.A ws_r st) := by
    unfold Cfg.vmap
    rw [hstyles, hpl, hsearch, hreplace]
    split
    · exact cli_map_words hA hS h2 hws hwr hNs hNr hsst hrst hUs hUr styles cfg.sing cfg.plur hen hvis
    · exact scan_map_words hA hS h2 hws hwr hNs hNr hsst hrst hUs hUr styles cfg.sing cfg.plur hen hvis
  refine ⟨hm.2.1, fun k hk => ?_, hm.2.2⟩
  obtain ⟨st', rfl⟩ := hm.1 k hk
  exact render_ends cfg.A (List.ne_nil_of_two h2) hws st'

theorem startsOk_of_ends {x : Bytes} (h : Ends x) : Edits.StartsOk x := by
  obtain ⟨⟨c, cs, rfl, hc⟩, _⟩ := h
  intro b hb
  cases hb
  exact Utf8.isCont_eq_false (.inl (alpha_lt hc))

theorem applyEdits_occurrence {d₁ x d₂ r : Bytes} (hx : Edits.StartsOk x) (hr : Edits.StartsOk r) (h2 : CharStart d₂) :
    Edits.applyEdits (d₁ ++ x ++ d₂)
      [{ before := x, after := r, start := d₁.length, stop := d₁.length + x.length }] = .ok (d₁ ++ r ++ d₂) := by
  rw [Edits.applyEdits_eq_spec]
  · simp only [Edits.spec, List.drop_zero, Nat.sub_zero, take_before, drop_through]
  · simp only [Edits.Consistent, Nat.zero_le, true_and, List.length_append, take_through, List.drop_left']
    refine ⟨by omega, by omega, ?_, ?_, hr, by omega⟩
    · rw [List.append_assoc]
      exact Edits.isCharBoundary_append (Edits.startsOk_append hx h2)
    · rw [← List.length_append]
      exact Edits.isCharBoundary_append h2

/-- a text that does not start with `_` is its own coercion context up to case: the first exit of `apply_coercion` -/
theorem coerceGuard_self {x : Bytes} (h : x.head? ≠ some 95) : coerceGuard x x = true := by
  have : stripPrefix x = x := by
    fun_cases stripPrefix x
    next => exact absurd rfl h
    next => exact absurd rfl h
    next => rfl
  rw [coerceGuard, this, beq_self_eq_true]

/-- the replacement decision for an unambiguous key between neutral delimiters is the map entry: the immediate identifier
    context of the occurrence is the occurrence, so coercion returns `None` -/
theorem hunkReplacement_occurrence {A : Acr} {env : Env} {vm : SMap} {x r repl d₁ d₂ : Bytes} (hx : Ends x)
    (hamb : isAmbiguous A x Gen.allStyles = false) (hget : vm.get x = some r) (hco : env.CoerceOk)
    (h1 : NeutralDelim d₁) (h2 : NeutralDelim d₂) :
    hunkReplacement A env vm (d₁ ++ x ++ d₂) d₁.length x repl = some (fixFirst x r) := by
  have h95 : x.head? ≠ some 95 := by
    obtain ⟨⟨c, cs, rfl, hc⟩, _⟩ := hx
    intro hh; cases hh; exact absurd hc (by decide)
  unfold hunkReplacement baseReplacement
  rw [hamb]
  simp only [Bool.false_eq_true, ↓reduceIte, hget, Option.map_some, contextPos_occurrence hx.ne_nil (head_not_neutral hx h1),
    immediateContext_neutral h1 h2, hco _ _ _ (coerceGuard_self h95)]

/-- one occurrence of an unambiguous key `x ↦ r` between neutral delimiters, in a table all of whose keys start and end
    with a letter: one exact match, one hunk, one edit -/
theorem rewriteLine_occurrence {cfg : Cfg} {x r d₁ d₂ : Bytes}
    (hskip : skipExact cfg.A cfg.search (stylesSlice cfg.opts) = false)
    (hxk : x ∈ cfg.vmap.keys) (hends : ∀ k ∈ cfg.vmap.keys, Ends k)
    (hamb : isAmbiguous cfg.A x Gen.allStyles = false) (hget : cfg.vmap.get x = some r)
    (hfix : fixFirst x r = r) (hr : Ends r) (hco : cfg.env.CoerceOk)
    (hcomp : cfg.env.compound (d₁ ++ x ++ d₂) = [])
    (h1 : NeutralDelim d₁) (h2 : NeutralDelim d₂) (hcs : CharStart d₂) :
    rewriteLine cfg (d₁ ++ x ++ d₂) = some (d₁ ++ r ++ d₂) := by
  unfold rewriteLine lineHunks
  simp only [hskip, Bool.false_eq_true, ↓reduceIte, exactMatches_occurrence hxk hends h1 h2, exactHunks,
    hunkReplacement_occurrence (hends x hxk) hamb hget hco h1 h2, hfix, hcomp, List.map_nil, List.append_nil,
    List.mergeSort_singleton]
  rw [applyEdits_occurrence (startsOk_of_ends (hends x hxk)) (startsOk_of_ends hr) hcs]

theorem rewriteLine_no_key {cfg : Cfg} {line : Bytes}
    (hno : ∀ i, i < line.length → firstAlt (sortKeys cfg.vmap.keys) (line.drop i) = none)
    (hcomp : cfg.env.compound line = []) : rewriteLine cfg line = some line := by
  unfold rewriteLine lineHunks
  have : exactMatches line cfg.vmap.keys = [] := by
    unfold exactMatches; rw [findIter_nil_of_none line 0 hno]; rfl
  simp only [this, ite_self, exactHunks, hcomp, List.map_nil, List.append_nil, List.mergeSort_nil]
  rfl

end LinePipeline
