import RModel.Model.CaseModel
import RModel.Lemmas.ListFacts
/-
  The tokenizer `CaseModel.tok` (C18): at the start of a lower-case, upper-case or capitalised word the trie branch
  takes the whole word or nothing, so such words joined by a delimiter are tokenised into exactly those words.
-/
open B

namespace CaseModel

macro "cc" : tactic => `(tactic| (
  simp only [isLower, isUpper, isDigit, isAlpha, isAlnum, isDelim, Bool.and_eq_true, Bool.or_eq_true,
    decide_eq_true_eq, Bool.and_eq_false_iff, Bool.or_eq_false_iff, decide_eq_false_iff_not,
    Bool.not_eq_true', Bool.not_eq_false'] at *
  <;> omega))

theorem lower_not_upper {c : UInt8} (h : isLower c = true) : isUpper c = false := by cc
theorem lower_not_digit {c : UInt8} (h : isLower c = true) : isDigit c = false := by cc
theorem lower_not_delim {c : UInt8} (h : isLower c = true) : isDelim c = false := by cc
theorem upper_not_lower {c : UInt8} (h : isUpper c = true) : isLower c = false := by cc
theorem upper_not_digit {c : UInt8} (h : isUpper c = true) : isDigit c = false := by cc
theorem upper_not_delim {c : UInt8} (h : isUpper c = true) : isDelim c = false := by cc
theorem delim_not_alnum {c : UInt8} (h : isDelim c = true) : isAlnum c = false := by cc
theorem digit_not_upper {c : UInt8} (h : isDigit c = true) : isUpper c = false := by cc
theorem digit_not_lower {c : UInt8} (h : isDigit c = true) : isLower c = false := by cc
theorem alpha_lt {c : UInt8} (h : isAlpha c = true) : c.toNat < 128 := by cc

theorem upper_ne_space {x : UInt8} (h : isUpper x = true) : (x == 32) = false := by
  rw [beq_eq_false_iff_ne]; rintro rfl; exact absurd h (by decide)

theorem lower_alpha {c : UInt8} (h : isLower c = true) : isAlpha c = true := by rw [isAlpha, h, Bool.or_true]
theorem upper_alpha {c : UInt8} (h : isUpper c = true) : isAlpha c = true := by rw [isAlpha, h, Bool.true_or]
theorem lower_alnum {c : UInt8} (h : isLower c = true) : isAlnum c = true := by
  rw [isAlnum, lower_alpha h, Bool.true_or]
theorem upper_alnum {c : UInt8} (h : isUpper c = true) : isAlnum c = true := by
  rw [isAlnum, upper_alpha h, Bool.true_or]

theorem not_alnum {c : UInt8} (h : isAlnum c = false) : isUpper c = false ∧ isLower c = false ∧ isDigit c = false := by
  simpa only [isAlnum, isAlpha, Bool.or_eq_false_iff, and_assoc] using h

def headIs (p : UInt8 → Bool) : Bytes → Bool
  | [] => false
  | c :: _ => p c

@[simp] theorem headIs_nil (p : UInt8 → Bool) : headIs p [] = false := rfl
@[simp] theorem headIs_cons (p : UInt8 → Bool) (c : UInt8) (t : Bytes) : headIs p (c :: t) = p c := rfl

theorem headIs_append_of_ne_nil (p : UInt8 → Bool) {w : Bytes} (t : Bytes) (h : w ≠ []) :
    headIs p (w ++ t) = headIs p w := by
  cases w with
  | nil => exact absurd rfl h
  | cons c w => rfl

theorem headIs_mono {p q : UInt8 → Bool} (h : ∀ c, p c = false → q c = false) {t : Bytes}
    (ht : headIs p t = false) : headIs q t = false := by
  cases t with
  | nil => rfl
  | cons c _ => exact h c ht

def prevAfter (prev : Option UInt8) (w : Bytes) : Option UInt8 := w.foldl (fun _ c => some c) prev

@[simp] theorem prevAfter_nil (prev : Option UInt8) : prevAfter prev [] = prev := rfl
@[simp] theorem prevAfter_cons (prev : Option UInt8) (c : UInt8) (w : Bytes) :
    prevAfter prev (c :: w) = prevAfter (some c) w := rfl

theorem prevAfter_append (prev : Option UInt8) (x y : Bytes) :
    prevAfter prev (x ++ y) = prevAfter (prevAfter prev x) y := by
  simp only [prevAfter, List.foldl_append]

theorem prevAfter_all (p : UInt8 → Bool) : ∀ (w : Bytes) (prev : Option UInt8), w ≠ [] → (∀ c ∈ w, p c = true) →
    ∃ q, prevAfter prev w = some q ∧ p q = true
  | [], _, h, _ => absurd rfl h
  | [c], _, _, hw => ⟨c, rfl, hw c (List.mem_singleton.mpr rfl)⟩
  | c :: d :: w, _, _, hw =>
    prevAfter_all p (d :: w) (some c) (List.cons_ne_nil _ _) (fun x hx => hw x (List.mem_cons_of_mem _ hx))

@[simp] theorem flush_nil (acc : List Bytes) : flush [] acc = acc := rfl
theorem flush_ne_nil {cur : Bytes} (h : cur ≠ []) (acc : List Bytes) : flush cur acc = acc ++ [cur] := by
  rw [flush, List.isEmpty_eq_false_iff.mpr h]; rfl

variable {A : Acr}

@[simp] theorem tok_nil (prev : Option UInt8) (cur : Bytes) (skip : Nat) (acc : List Bytes) :
    tok A prev cur skip [] acc = flush cur acc := by
  simp only [tok]

theorem tok_skip (prev : Option UInt8) (cur : Bytes) (k : Nat) (b : UInt8) (rest : Bytes) (acc : List Bytes) :
    tok A prev cur (k + 1) (b :: rest) acc = tok A (some b) cur k rest acc := by
  simp only [tok]

theorem tok_delim {b : UInt8} (h : isDelim b = true) (prev : Option UInt8) (cur rest : Bytes) (acc : List Bytes) :
    tok A prev cur 0 (b :: rest) acc = tok A (some b) [] 0 rest (flush cur acc) := by
  simp only [tok, h, ↓reduceIte]

theorem tok_other {b : UInt8} (hd : isDelim b = false) (ha : isAlnum b = false) (prev : Option UInt8)
    (cur rest : Bytes) (acc : List Bytes) :
    tok A prev cur 0 (b :: rest) acc = tok A (some b) cur 0 rest acc := by
  simp only [tok, hd, ha, ↓reduceIte, Bool.false_eq_true]

theorem tok_append {b p : UInt8} {cur : Bytes} (hcur : cur ≠ []) (hd : isDelim b = false) (ha : isAlnum b = true)
    (rest : Bytes) (acc : List Bytes) (hs : shouldSplit A p cur b rest = false) :
    tok A (some p) cur 0 (b :: rest) acc = tok A (some b) (cur ++ [b]) 0 rest acc := by
  simp only [tok, hd, ha, List.isEmpty_eq_false_iff.mpr hcur, hs, ↓reduceIte, Bool.false_eq_true, Bool.not_false,
    Bool.and_false]

theorem tok_split {b p : UInt8} {cur : Bytes} (hcur : cur ≠ []) (hd : isDelim b = false) (ha : isAlnum b = true)
    (rest : Bytes) (acc : List Bytes) (hs : shouldSplit A p cur b rest = true) :
    tok A (some p) cur 0 (b :: rest) acc = tok A (some b) [b] 0 rest (acc ++ [cur]) := by
  simp only [tok, hd, ha, List.isEmpty_eq_false_iff.mpr hcur, hs, ↓reduceIte, Bool.false_eq_true, Bool.not_false,
    Bool.and_true]

theorem tok_start_plain {b : UInt8} (hd : isDelim b = false) (ha : isAlnum b = true) (prev : Option UInt8)
    (rest : Bytes) (acc : List Bytes) (hacc : acrAccept A (b :: rest) = none)
    (hup : isUpper b = true → upperSplit A (b :: rest) = none) :
    tok A prev [] 0 (b :: rest) acc = tok A (some b) [b] 0 rest acc := by
  have hj : (if isUpper b = true then upperSplit A (b :: rest) else none) = none := by
    split
    · next h => exact hup h
    · rfl
  cases prev <;>
    simp only [tok, hd, ha, hacc, hj, ↓reduceIte, Bool.false_eq_true, List.isEmpty_nil, Bool.not_true,
      Bool.false_and, List.nil_append]

theorem tok_start_acr {b : UInt8} (hd : isDelim b = false) (ha : isAlnum b = true) (prev : Option UInt8)
    (rest : Bytes) (acc : List Bytes) {n : Nat} (hacc : acrAccept A (b :: rest) = some n) :
    tok A prev [] 0 (b :: rest) acc = tok A (some b) [] (n - 1) rest (acc ++ [(b :: rest).take n]) := by
  simp only [tok, hd, ha, hacc, ↓reduceIte, Bool.false_eq_true, List.isEmpty_nil]

theorem tok_skip_all (cur : Bytes) (acc : List Bytes) : ∀ (x t : Bytes) (prev : Option UInt8),
    tok A prev cur x.length (x ++ t) acc = tok A (prevAfter prev x) cur 0 t acc
  | [], _, _ => rfl
  | c :: x, t, prev => by
    simp only [List.length_cons, List.cons_append, tok_skip, prevAfter_cons]
    exact tok_skip_all cur acc x t (some c)

theorem tok_start_acr_word {c0 : UInt8} {w' : Bytes} (hd : isDelim c0 = false) (ha : isAlnum c0 = true)
    (prev : Option UInt8) (t : Bytes) (acc : List Bytes) (hacc : acrAccept A (c0 :: w' ++ t) = some (c0 :: w').length) :
    tok A prev [] 0 (c0 :: w' ++ t) acc = tok A (prevAfter prev (c0 :: w')) [] 0 t (acc ++ [c0 :: w']) := by
  rw [List.cons_append] at hacc ⊢
  rw [tok_start_acr hd ha prev _ acc hacc, ← List.cons_append, List.take_append_of_le_length (Nat.le_refl _),
    List.take_length]
  simp only [List.length_cons, Nat.add_sub_cancel]
  rw [tok_skip_all]
  rfl

theorem shouldSplit_lower {b : UInt8} (hb : isLower b = true) (p : UInt8) (cur tail : Bytes) :
    shouldSplit A p cur b tail = false := by
  simp only [shouldSplit, lower_not_upper hb, lower_not_digit hb, Bool.false_and, Bool.and_false,
    Bool.false_eq_true, ↓reduceIte]

theorem tok_lower_run (acc : List Bytes) (t : Bytes) : ∀ (w cur : Bytes) (p : UInt8), cur ≠ [] →
    (∀ c ∈ w, isLower c = true) →
    tok A (some p) cur 0 (w ++ t) acc = tok A (prevAfter (some p) w) (cur ++ w) 0 t acc
  | [], cur, p, _, _ => by simp only [List.nil_append, prevAfter_nil, List.append_nil]
  | c :: w, cur, p, hcur, hw => by
    have hc : isLower c = true := hw c (List.mem_cons_self ..)
    rw [List.cons_append, tok_append hcur (lower_not_delim hc) (lower_alnum hc) _ _ (shouldSplit_lower hc ..)]
    rw [tok_lower_run acc t w (cur ++ [c]) c (by simp) (fun x hx => hw x (List.mem_cons_of_mem _ hx))]
    simp only [prevAfter_cons, List.append_assoc, List.singleton_append]

theorem shouldSplit_upper_upper {b p : UInt8} (hb : isUpper b = true) (hp : isUpper p = true) (cur : Bytes)
    {tail : Bytes} (ht : headIs isLower tail = false) : shouldSplit A p cur b tail = false := by
  cases tail with
  | nil =>
    simp only [shouldSplit, upper_not_lower hp, upper_not_digit hp, upper_not_digit hb, Bool.and_false,
      Bool.false_and, Bool.false_eq_true, ↓reduceIte]
  | cons c t =>
    have h1 : isLower c = false := ht
    simp only [shouldSplit, h1, upper_not_lower hp, upper_not_digit hp, upper_not_digit hb, Bool.and_false,
      Bool.false_and, Bool.false_eq_true, ↓reduceIte]

theorem headIs_lower_upper_append : ∀ (w : Bytes) {t : Bytes}, (∀ c ∈ w, isUpper c = true) →
    headIs isLower t = false → headIs isLower (w ++ t) = false
  | [], _, _, ht => ht
  | c :: _, _, hw, _ => upper_not_lower (hw c (List.mem_cons_self ..))

theorem tok_upper_run (acc : List Bytes) {t : Bytes} (ht : headIs isLower t = false) :
    ∀ (w cur : Bytes) (p : UInt8), cur ≠ [] → isUpper p = true → (∀ c ∈ w, isUpper c = true) →
    tok A (some p) cur 0 (w ++ t) acc = tok A (prevAfter (some p) w) (cur ++ w) 0 t acc
  | [], cur, p, _, _, _ => by simp only [List.nil_append, prevAfter_nil, List.append_nil]
  | c :: w, cur, p, hcur, hp, hw => by
    have hc : isUpper c = true := hw c (List.mem_cons_self ..)
    have hw' : ∀ x ∈ w, isUpper x = true := fun x hx => hw x (List.mem_cons_of_mem _ hx)
    rw [List.cons_append, tok_append hcur (upper_not_delim hc) (upper_alnum hc) _ _
      (shouldSplit_upper_upper hc hp cur (headIs_lower_upper_append w hw' ht))]
    rw [tok_upper_run acc ht w (cur ++ [c]) c (by simp) hc hw']
    simp only [prevAfter_cons, List.append_assoc, List.singleton_append]

/-- `r` behaves as one token when it starts a token and is followed by `t`: it is collected byte by byte, or the trie
    pushes it whole -/
def StartOK (A : Acr) (r t : Bytes) : Prop :=
  ∀ prev acc, tok A prev [] 0 (r ++ t) acc = tok A (prevAfter prev r) r 0 t acc ∨
              tok A prev [] 0 (r ++ t) acc = tok A (prevAfter prev r) [] 0 t (acc ++ [r])

theorem startOK_of_run {c0 : UInt8} {w' t : Bytes} (hd : isDelim c0 = false) (ha : isAlnum c0 = true)
    (hacc : ∀ n, acrAccept A (c0 :: w' ++ t) = some n → n = (c0 :: w').length)
    (hup : isUpper c0 = true → upperSplit A (c0 :: w' ++ t) = none)
    (hrun : ∀ acc, tok A (some c0) [c0] 0 (w' ++ t) acc = tok A (prevAfter (some c0) w') (c0 :: w') 0 t acc) :
    StartOK A (c0 :: w') t := by
  intro prev acc
  cases h : acrAccept A (c0 :: w' ++ t) with
  | none =>
    rw [List.cons_append] at h hup ⊢
    rw [tok_start_plain hd ha prev _ acc h hup, hrun]
    exact Or.inl rfl
  | some n =>
    obtain rfl := hacc n h
    exact Or.inr (tok_start_acr_word hd ha prev t acc h)

/-- contract of `find_longest_match`: a match is a non-empty alphanumeric prefix -/
def AcrOk (A : Acr) : Prop :=
  ∀ rest n, A.flm rest = some n → 1 ≤ n ∧ n ≤ rest.length ∧ ∀ c ∈ rest.take n, isAlnum c = true

/-- contract of `find_longest_match`: the longest match does not depend on what follows it
    (cutting the input after the match, or anywhere later, gives the same match) -/
def AcrStable (A : Acr) : Prop :=
  ∀ x t n, A.flm (x ++ t) = some n → n ≤ x.length → A.flm x = some n

theorem drop_append_cons {w : Bytes} {n : Nat} (h : n < w.length) (t : Bytes) :
    ∃ nb r, nb ∈ w ∧ w.drop n = nb :: r ∧ (w ++ t).drop n = nb :: (r ++ t) := by
  refine ⟨w[n], w.drop (n + 1), List.getElem_mem h, List.drop_eq_getElem_cons h, ?_⟩
  rw [List.drop_append_of_le_length (Nat.le_of_lt h), List.drop_eq_getElem_cons h, List.cons_append]

theorem le_length_of_take_all {p : UInt8 → Bool} {x t : Bytes} {n : Nat} (ht : headIs p t = false)
    (hn : n ≤ (x ++ t).length) (h : ∀ c ∈ (x ++ t).take n, p c = true) : n ≤ x.length := by
  cases t with
  | nil => simpa only [List.append_nil] using hn
  | cons c t' =>
    refine Nat.le_of_not_lt fun hlt => ?_
    obtain ⟨k, hk⟩ : ∃ k, n - x.length = k + 1 := ⟨n - x.length - 1, by omega⟩
    have hc : c ∈ (x ++ c :: t').take n := by
      rw [List.take_append, hk]; exact List.mem_append_right _ (List.mem_cons_self ..)
    exact Bool.noConfusion ((h c hc).symm.trans ht)

theorem flm_bound (hA : AcrOk A) {x t : Bytes} {n : Nat} (ht : headIs isAlnum t = false)
    (hf : A.flm (x ++ t) = some n) : n ≤ x.length :=
  le_length_of_take_all ht (hA _ _ hf).2.1 (hA _ _ hf).2.2

theorem flm_append_none (hA : AcrOk A) (hS : AcrStable A) {x t : Bytes} (ht : headIs isAlnum t = false)
    (h : A.flm x = none) : A.flm (x ++ t) = none := by
  cases hf : A.flm (x ++ t) with
  | none => rfl
  | some m => rw [hS x t m hf (flm_bound hA ht hf)] at h; cases h

theorem acrAccept_some {rest : Bytes} {n : Nat} (h : acrAccept A rest = some n) :
    A.flm rest = some n ∧
    ((rest.take n).all isUpper || (rest.take n).all (fun c => isLower c || isDigit c)) = true ∧
    acrSkip A rest n = false := by
  unfold acrAccept at h
  cases hf : A.flm rest with
  | none => rw [hf] at h; cases h
  | some m =>
    simp only [hf] at h
    split at h
    · cases h
    · split at h
      · cases h
      · next h1 h2 =>
        cases h
        exact ⟨rfl, by simpa only [Bool.not_eq_true', Bool.not_eq_false] using h1, by simpa only [Bool.not_eq_true] using h2⟩

theorem acrSkip_lower {c0 nb : UInt8} {rest r : Bytes} {n : Nat} (hd : (c0 :: rest).drop n = nb :: r)
    (hc0 : isLower c0 = true) (hnb : isLower nb = true) : acrSkip A (c0 :: rest) n = true := by
  simp only [acrSkip, hd, List.headD_cons, lower_not_upper hc0, hc0, hnb, Bool.false_and, Bool.and_self,
    Bool.false_eq_true, ↓reduceIte]

theorem acrSkip_upper {c0 nb : UInt8} {rest r : Bytes} {n : Nat} (hd : (c0 :: rest).drop n = nb :: r)
    (hc0 : isUpper c0 = true) (hnb : isUpper nb = true) (hf : A.flm (nb :: r) = none) :
    acrSkip A (c0 :: rest) n = true := by
  simp only [acrSkip, hd, List.headD_cons, hc0, hnb, Bool.and_self, ↓reduceIte, hf, upperRun, gt_iff_lt,
    Nat.zero_lt_succ, decide_true]

/-- whole word or nothing: a shorter match is skipped, a longer one mixes cases -/
theorem acrAccept_lower (hA : AcrOk A) {c0 : UInt8} {w' t : Bytes} (hw : ∀ c ∈ c0 :: w', isLower c = true)
    (ht : headIs (fun c => isLower c || isDigit c) t = false) {n : Nat}
    (h : acrAccept A (c0 :: w' ++ t) = some n) : n = (c0 :: w').length := by
  obtain ⟨hf, hcons, hskip⟩ := acrAccept_some h
  obtain ⟨h1, h2, -⟩ := hA _ _ hf
  have hc0 : isLower c0 = true := hw c0 (List.mem_cons_self ..)
  have hmem : c0 ∈ (c0 :: w' ++ t).take n := by
    obtain ⟨k, rfl⟩ : ∃ k, n = k + 1 := ⟨n - 1, by omega⟩
    exact List.mem_cons_self ..
  rw [List.all_false_of_mem hmem (lower_not_upper hc0), Bool.false_or] at hcons
  rcases Nat.lt_or_eq_of_le (le_length_of_take_all ht h2 (List.all_eq_true.mp hcons)) with hlt | heq
  · obtain ⟨nb, r, hnb, -, hd⟩ := drop_append_cons hlt t
    rw [List.cons_append] at hd hskip
    rw [acrSkip_lower hd hc0 (hw nb hnb)] at hskip
    cases hskip
  · exact heq

/-- a trie match on a proper prefix of the upper-case word `W` is not followed by a second trie match (what
    `NeutralUpper`, clause N1 of `NeutralWord`, asks of the upper-cased word) -/
def NoAcrPair (A : Acr) (W : Bytes) : Prop :=
  ∀ n, A.flm W = some n → n = W.length ∨ A.flm (W.drop n) = none

theorem acrAccept_upper (hA : AcrOk A) (hS : AcrStable A) {c0 : UInt8} {w' t : Bytes}
    (hw : ∀ c ∈ c0 :: w', isUpper c = true) (hN : NoAcrPair A (c0 :: w')) (ht : headIs isAlnum t = false) {n : Nat}
    (h : acrAccept A (c0 :: w' ++ t) = some n) : n = (c0 :: w').length := by
  obtain ⟨hf, -, hskip⟩ := acrAccept_some h
  have hle := flm_bound hA ht hf
  rcases Nat.lt_or_eq_of_le hle with hlt | heq
  · rcases hN n (hS _ _ _ hf hle) with heq | hnone
    · exact heq
    · obtain ⟨nb, r, hnb, hdw, hd⟩ := drop_append_cons hlt t
      rw [hdw] at hnone
      rw [List.cons_append] at hd hskip
      rw [acrSkip_upper hd (hw c0 (List.mem_cons_self ..)) (hw nb hnb) (flm_append_none hA hS ht hnone)] at hskip
      cases hskip
  · exact heq

theorem startOK_lower (hA : AcrOk A) {w t : Bytes} (hne : w ≠ []) (hw : ∀ c ∈ w, isLower c = true)
    (ht : headIs (fun c => isLower c || isDigit c) t = false) : StartOK A w t := by
  obtain ⟨c0, w', rfl⟩ := List.exists_cons_of_ne_nil hne
  have hc0 : isLower c0 = true := hw c0 (List.mem_cons_self ..)
  exact startOK_of_run (lower_not_delim hc0) (lower_alnum hc0) (fun _ => acrAccept_lower hA hw ht)
    (fun h => Bool.noConfusion ((lower_not_upper hc0).symm.trans h))
    (fun acc => tok_lower_run acc t w' [c0] c0 (List.cons_ne_nil _ _) (fun x hx => hw x (List.mem_cons_of_mem _ hx)))

theorem upperRun_append_upper : ∀ (w t : Bytes), (∀ c ∈ w, isUpper c = true) →
    upperRun (w ++ t) = w.length + upperRun t
  | [], t, _ => by simp only [List.nil_append, List.length_nil, Nat.zero_add]
  | c :: w, t, hw => by
    have hc : isUpper c = true := hw c (List.mem_cons_self ..)
    simp only [List.cons_append, upperRun, hc, ↓reduceIte, List.length_cons,
      upperRun_append_upper w t (fun x hx => hw x (List.mem_cons_of_mem _ hx))]
    omega

theorem upperRun_of_head_not_upper {t : Bytes} (h : headIs isUpper t = false) : upperRun t = 0 := by
  cases t with
  | nil => rfl
  | cons c t =>
    have hc : isUpper c = false := h
    simp only [upperRun, hc, Bool.false_eq_true, ↓reduceIte]

theorem upperSplit_upper_word {w t : Bytes} (hw : ∀ c ∈ w, isUpper c = true) (ht : headIs isAlnum t = false) :
    upperSplit A (w ++ t) = none := by
  have hj : upperRun (w ++ t) = w.length := by
    rw [upperRun_append_upper w t hw, upperRun_of_head_not_upper (headIs_mono (fun _ h => (not_alnum h).1) ht),
      Nat.add_zero]
  have hd : (w ++ t).drop w.length = t := by
    rw [List.drop_append_of_le_length (Nat.le_refl _), List.drop_length, List.nil_append]
  simp only [upperSplit, hj, hd]
  cases t with
  | nil => rfl
  | cons c t =>
    have hc : isLower c = false := (not_alnum ht).2.1
    simp only [hc, Bool.and_false, Bool.false_eq_true, ↓reduceIte]

theorem startOK_upper (hA : AcrOk A) (hS : AcrStable A) {w t : Bytes} (hne : w ≠ [])
    (hw : ∀ c ∈ w, isUpper c = true) (hN : NoAcrPair A w) (ht : headIs isAlnum t = false) : StartOK A w t := by
  have hus : upperSplit A (w ++ t) = none := upperSplit_upper_word hw ht
  obtain ⟨c0, w', rfl⟩ := List.exists_cons_of_ne_nil hne
  have hc0 : isUpper c0 = true := hw c0 (List.mem_cons_self ..)
  exact startOK_of_run (upper_not_delim hc0) (upper_alnum hc0) (fun _ => acrAccept_upper hA hS hw hN ht)
    (fun _ => hus)
    (fun acc => tok_upper_run acc (headIs_mono (fun _ h => (not_alnum h).2.1) ht) w' [c0] c0 (List.cons_ne_nil _ _) hc0
      (fun x hx => hw x (List.mem_cons_of_mem _ hx)))

def IsCap (r : Bytes) : Prop :=
  ∃ u l0 l', r = u :: l0 :: l' ∧ isUpper u = true ∧ ∀ c ∈ l0 :: l', isLower c = true

/-- the trie branch does not take a capitalised word, nor a part of it, unless its capital alone is an acronym -/
theorem acrAccept_cap (hA : AcrOk A) (hS : AcrStable A) {u l0 : UInt8} {l' : Bytes} (hu : isUpper u = true)
    (hl0 : isLower l0 = true) (hN : A.flm (u :: l0 :: l') ≠ some 1) (t : Bytes) :
    acrAccept A (u :: l0 :: l' ++ t) = none := by
  cases h : acrAccept A (u :: l0 :: l' ++ t) with
  | none => rfl
  | some n =>
    obtain ⟨hf, hcons, -⟩ := acrAccept_some h
    have hn1 : n ≠ 1 := fun h1 => hN (hS _ _ _ (h1 ▸ hf) (by simp))
    obtain ⟨k, rfl⟩ : ∃ k, n = k + 2 := ⟨n - 2, by have := (hA _ _ hf).1; omega⟩
    simp only [List.cons_append, List.take_succ_cons, List.all_cons, hu, lower_not_upper hl0, upper_not_lower hu,
      upper_not_digit hu, Bool.false_and, Bool.and_false, Bool.or_self, Bool.false_eq_true] at hcons

theorem upperSplit_cap {u l0 : UInt8} (hu : isUpper u = true) (hl0 : isLower l0 = true) (r : Bytes) :
    upperSplit A (u :: l0 :: r) = none := by
  simp only [upperSplit, upperRun, hu, lower_not_upper hl0, ↓reduceIte, Bool.false_eq_true, Nat.zero_add,
    List.drop_succ_cons, List.drop_zero, gt_iff_lt, Nat.lt_irrefl, decide_false, Bool.false_and]

theorem tok_cap_start (hA : AcrOk A) (hS : AcrStable A) {r : Bytes} (hr : IsCap r) (hN : A.flm r ≠ some 1)
    (t : Bytes) (prev : Option UInt8) (acc : List Bytes) :
    tok A prev [] 0 (r ++ t) acc = tok A (prevAfter prev r) r 0 t acc := by
  obtain ⟨u, l0, l', rfl, hu, hl⟩ := hr
  have hl0 : isLower l0 = true := hl l0 (List.mem_cons_self ..)
  have hacc := acrAccept_cap hA hS hu hl0 hN t
  rw [List.cons_append] at hacc ⊢
  rw [tok_start_plain (upper_not_delim hu) (upper_alnum hu) prev _ acc hacc
    (fun _ => by rw [List.cons_append]; exact upperSplit_cap hu hl0 _)]
  rw [tok_lower_run acc t (l0 :: l') [u] u (by simp) hl]
  rfl

def Good (A : Acr) (r : Bytes) : Prop :=
  r ≠ [] ∧ ∀ t, headIs isAlnum t = false → StartOK A r t

theorem good_lower (hA : AcrOk A) {w : Bytes} (hne : w ≠ []) (hw : ∀ c ∈ w, isLower c = true) : Good A w :=
  ⟨hne, fun _ ht => startOK_lower hA hne hw
    (headIs_mono (fun _ h => by rw [(not_alnum h).2.1, (not_alnum h).2.2]; rfl) ht)⟩

theorem good_upper (hA : AcrOk A) (hS : AcrStable A) {w : Bytes} (hne : w ≠ [])
    (hw : ∀ c ∈ w, isUpper c = true) (hN : NoAcrPair A w) : Good A w :=
  ⟨hne, fun _ ht => startOK_upper hA hS hne hw hN ht⟩

theorem isCap_ne_nil {r : Bytes} (h : IsCap r) : r ≠ [] := by
  obtain ⟨u, l0, l', rfl, _⟩ := h; simp

theorem good_cap (hA : AcrOk A) (hS : AcrStable A) {r : Bytes} (hr : IsCap r) (hN : A.flm r ≠ some 1) :
    Good A r :=
  ⟨isCap_ne_nil hr, fun t _ prev acc => Or.inl (tok_cap_start hA hS hr hN t prev acc)⟩

theorem tok_good_end {r : Bytes} (h : Good A r) (prev : Option UInt8) (acc : List Bytes) :
    tok A prev [] 0 r acc = acc ++ [r] := by
  have := h.2 [] rfl prev acc
  simp only [List.append_nil, tok_nil, flush_nil, flush_ne_nil h.1] at this
  rcases this with h | h <;> exact h

theorem tok_good_delim {r : Bytes} (h : Good A r) {d : UInt8} (hd : isDelim d = true) (rest : Bytes)
    (prev : Option UInt8) (acc : List Bytes) :
    tok A prev [] 0 (r ++ d :: rest) acc = tok A (some d) [] 0 rest (acc ++ [r]) := by
  have := h.2 (d :: rest) (delim_not_alnum hd) prev acc
  simp only [tok_delim hd, flush_nil, flush_ne_nil h.1] at this
  rcases this with h | h <;> exact h

theorem joinWith_cons_cons (sep a b : Bytes) (l : List Bytes) :
    joinWith sep (a :: b :: l) = a ++ sep ++ joinWith sep (b :: l) := rfl

theorem tok_join {d : UInt8} (hd : isDelim d = true) : ∀ (rs : List Bytes) (prev : Option UInt8)
    (acc : List Bytes), (∀ r ∈ rs, Good A r) → tok A prev [] 0 (joinWith [d] rs) acc = acc ++ rs
  | [], _, _, _ => by simp only [joinWith, tok_nil, flush_nil, List.append_nil]
  | [r], prev, acc, h => by
    simp only [joinWith]
    exact tok_good_end (h r (List.mem_singleton.mpr rfl)) prev acc
  | a :: b :: l, prev, acc, h => by
    rw [joinWith_cons_cons, List.append_assoc, List.singleton_append,
      tok_good_delim (h a (List.mem_cons_self ..)) hd,
      tok_join hd (b :: l) (some d) (acc ++ [a]) (fun r hr => h r (List.mem_cons_of_mem _ hr))]
    simp only [List.append_assoc, List.singleton_append]

theorem tok_join_then {d : UInt8} (hd : isDelim d = true) : ∀ (rs : List Bytes), rs ≠ [] →
    (∀ r ∈ rs, Good A r) → ∀ (prev : Option UInt8) (acc : List Bytes) (rest : Bytes),
    tok A prev [] 0 (joinWith [d] rs ++ d :: rest) acc = tok A (some d) [] 0 rest (acc ++ rs)
  | [], h, _, _, _, _ => absurd rfl h
  | [r], _, h, prev, acc, rest => by
    simp only [joinWith]
    exact tok_good_delim (h r (List.mem_singleton.mpr rfl)) hd rest prev acc
  | a :: b :: l, _, h, prev, acc, rest => by
    rw [joinWith_cons_cons, List.append_assoc, List.append_assoc, List.singleton_append,
      tok_good_delim (h a (List.mem_cons_self ..)) hd,
      tok_join_then hd (b :: l) (by simp) (fun r hr => h r (List.mem_cons_of_mem _ hr))]
    simp only [List.append_assoc, List.singleton_append]

theorem tok_delims {d : UInt8} (hd : isDelim d = true) (acc : List Bytes) (rest : Bytes) :
    ∀ (n : Nat), tok A (some d) [] 0 (List.replicate n d ++ rest) acc = tok A (some d) [] 0 rest acc
  | 0 => rfl
  | n + 1 => by rw [List.replicate_succ, List.cons_append, tok_delim hd, flush_nil, tok_delims hd acc rest n]

theorem parse_join {d : UInt8} (hd : isDelim d = true) (rs : List Bytes) (h : ∀ r ∈ rs, Good A r) :
    parse A (joinWith [d] rs) = rs := by
  simp only [parse, tok_join hd rs none [] h, List.nil_append]

end CaseModel
