import RModel.Model.Apply
import RModel.Lemmas.RenamePhase
import RModel.Lemmas.PathOrder
/-
  Frame lemmas for `Apply.applyPlan` (used by Props/C09.lean): a path that is neither a planned file nor at/below a
  planned rename source or destination keeps its node through the content phase, the rename phase (including
  re-basing and rollback) and the backup step.
-/
namespace ApplyFrame
open Fs Apply RenamePhase

def clean (q : Path) (pr : Path × Path) : Prop := pre pr.1 q = false ∧ pre pr.2 q = false

theorem rollback_frame (q : Path) : ∀ (l : List (Path × Path)) (t : Tree) (err : Option Errno),
    (∀ pr ∈ l, clean q pr) → lookup (rollback t l err).1 q = lookup t q := by
  intro l
  induction l with
  | nil => intro t err _; rfl
  | cons pr rest ih =>
    intro t err hc
    rw [List.forall_mem_cons] at hc
    rw [rollback]
    cases hr : rename t pr.2 pr.1 with
    | ok t' => exact (ih t' err hc.2).trans (rename_frame t t' _ _ q hr hc.1.2 hc.1.1)
    | error e => exact ih t _ hc.2

theorem rebase_clean (q p : Path) (perf : List (Path × Path)) (hc : ∀ pr ∈ perf, clean q pr)
    (hp : pre p q = false) : pre (rebase perf p) q = false := by
  induction perf using snoc_induction with
  | hnil => exact hp
  | hsnoc l e ih =>
    rw [rebase_snoc]
    split
    · exact Bool.eq_false_iff.2 fun h =>
        Bool.eq_false_iff.1 (hc e (List.mem_append_right _ List.mem_cons_self)).2 (pre_trans (pre_append _ _) h)
    · exact ih fun pr hm => hc pr (List.mem_append_left _ hm)

theorem clean_snoc {q : Path} {perf : List (Path × Path)} {x : Path × Path} (hc : ∀ pr ∈ perf, clean q pr)
    (hx : clean q x) : ∀ pr ∈ perf ++ [x], clean q pr :=
  fun pr hm => (List.mem_append.1 hm).elim (hc pr) fun hm => List.mem_singleton.1 hm ▸ hx

theorem executedFrom_clean (q : Path) : ∀ (perf acc : List (Path × Path)),
    (∀ pr ∈ acc, clean q pr) → (∀ pr ∈ perf, clean q pr) → ∀ pr ∈ executedFrom acc perf, clean q pr := by
  intro perf
  induction perf with
  | nil => intro acc _ _ pr hm; cases hm
  | cons x rest ih =>
    intro acc hacc hperf
    rw [List.forall_mem_cons] at hperf
    rw [executedFrom, List.forall_mem_cons]
    exact ⟨⟨rebase_clean q x.1 acc hacc hperf.1.1, hperf.1.2⟩, ih (acc ++ [x]) (clean_snoc hacc hperf.1) hperf.2⟩

theorem rollbackList_clean (q : Path) (perf : List (Path × Path)) (hc : ∀ pr ∈ perf, clean q pr) :
    ∀ pr ∈ (rollbackList perf).reverse, clean q pr := by
  intro pr hm
  rw [List.mem_reverse, rollbackList] at hm
  split at hm
  · exact executedFrom_clean q perf [] (fun _ hm => nomatch hm) hc pr hm
  · exact hc pr hm

theorem renamePhase_frame (q : Path) : ∀ (rs : List Ren) (t : Tree) (perf : List (Path × Path)),
    (∀ pr ∈ perf, clean q pr) → (∀ r ∈ rs, clean q (r.path, r.newPath)) →
    lookup (renamePhase t perf rs).tree q = lookup t q ∧ ∀ pr ∈ (renamePhase t perf rs).performed, clean q pr := by
  intro rs
  induction rs with
  | nil => intro t perf hc _; exact ⟨rfl, hc⟩
  | cons r rs ih =>
    intro t perf hc hr
    rw [List.forall_mem_cons] at hr
    have haf := rebase_clean q r.path perf hc hr.1.1
    have hat := rebase_clean q r.newPath perf hc hr.1.2
    rcases renamePhase_cons t perf r rs with ⟨t', hres, heq⟩ | ⟨o, heq, _⟩
    · obtain ⟨h1, h2⟩ := ih t' _ (clean_snoc hc (x := (r.path, rebase perf r.newPath)) ⟨hr.1.1, hat⟩) hr.2
      rw [heq]
      exact ⟨h1.trans (rename_frame t t' _ _ q (rename_of_renameTS hres) haf hat), h2⟩
    · rw [heq]
      exact ⟨rollback_frame q _ t none (rollbackList_clean q perf hc), hc⟩

theorem backupPhase_frame (q : Path) (r : Result) (files : List Path) (hc : ∀ pr ∈ r.performed, clean q pr) :
    lookup (backupPhase r files).tree q = lookup r.tree q := by
  have := rollback_frame q _ r.tree none (rollbackList_clean q r.performed hc)
  unfold backupPhase
  split
  · rfl
  · split
    · split <;> next heq => rw [heq] at this; exact this
    · rfl

def planned (p : Plan) (q : Path) : Bool :=
  p.hunks.any (fun h => h.file == q) || p.rens.any (fun r => pre r.path q || pre r.newPath q)

theorem applyPlan_frame (t : Tree) (p : Plan) (q : Path) (h : planned p q = false) :
    lookup (applyPlan t p).tree q = lookup t q := by
  rw [planned, Bool.or_eq_false_iff, List.any_eq_false, List.any_eq_false] at h
  have hfiles : ∀ f ∈ sortedFiles p.hunks, f ≠ q := fun f hm hq =>
    have ⟨h', hm', he⟩ := PathOrder.mem_sortedFiles.1 hm
    h.1 h' hm' (beq_iff_eq.2 (he.trans hq))
  have hrens : ∀ r ∈ sortRens p.rens, clean q (r.path, r.newPath) := fun r hm =>
    (Bool.or_eq_false_iff.1 (Bool.eq_false_iff.2 (h.2 r (mem_sortRens.1 hm))))
  cases hpf : preflight t [] p.rens with
  | some o => rw [applyPlan_stop t p hpf]
  | none =>
    rw [applyPlan_pass hpf]
    have hc := ContentPhase.contentPhase_frame p.hunks q (sortedFiles p.hunks) t hfiles
    cases hcp : contentPhase p.hunks t (sortedFiles p.hunks) with
    | mk o t1 =>
      rw [hcp] at hc
      obtain ⟨hrp, hpc⟩ := renamePhase_frame q (sortRens p.rens) t1 [] (fun _ hm => nomatch hm) hrens
      by_cases ho : o = .ok
      · subst ho
        rw [applyCore_eq hcp]
        split
        · exact (backupPhase_frame q _ _ hpc).trans (hrp.trans hc)
        · exact hrp.trans hc
      · rw [applyCore_stop hcp ho]; exact hc

end ApplyFrame
