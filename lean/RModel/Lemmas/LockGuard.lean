import RModel.Model.Lock
import RModel.Lemmas.Lock
/-
  The GUARDED shape of `lock.rs` (`Lock.gstep`): acquire's and release's inspect-then-change sequences run under
  an exclusive `flock` on `.renamify`, the lock file is published complete, and a lock is removed as
  stale/orphaned only if its pid is dead.

  `GInv` is an inductive invariant that needs NO hypothesis about the lock file that is present initially, about
  the clock, about the number of processes or about processes leaving: it holds in every state of every
  schedule from every initial lock-file state, and it implies mutual exclusion.
-/
namespace Lock

def Removable (s : State) (c : Content) : Prop :=
  c = .empty ∨ c = .garbage ∨ c = .invalid ∨ ∃ pid ts, c = .pidts pid ts ∧ s.alive pid = false

structure GInv (s : State) : Prop where
  guarded : s.guarded = true
  needsDead : s.staleNeedsDead = true
  idle : ∀ p, s.n ≤ p → s.pc p = .start
  liveness : ∀ p, p < s.n → (s.pc p).terminal = false → s.alive (pidOf p) = true
  inSect : ∀ p, (s.pc p).sect = true → s.guard = some p
  /-- `dropCheck`: a Drop that has just taken the guard -/
  guardBy : ∀ p, s.guard = some p → p < s.n ∧ ((s.pc p).sect = true ∨ s.pc p = .dropCheck)
  noCreated : ∀ p ts, s.pc p ≠ .created ts
  /-- what the process inside the sequence has seen is still true: nobody else can touch the lock file -/
  opened : ∀ p i, s.pc p = .opened i → s.cell = some i
  read : ∀ p c, s.pc p = .readDone c → ∃ i, s.cell = some i ∧ (s.files i = c ∨ (s.files i = .invalid ∧ c = .garbage))
  pending : ∀ p w, s.pc p = .unlinkPending w → ∃ i, s.cell = some i ∧ Removable s (s.files i)
  owners : ∀ o, (s.pc o).owns = true → s.cell = some (inoOf o) ∧ ∃ ts, s.files (inoOf o) = .pidts (pidOf o) ts
  /-- a lock file other than the one present initially (inode 0) belongs to a current owner -/
  linked : ∀ i, s.cell = some i → i ≠ 0 → ∃ o, i = inoOf o ∧ (s.pc o).owns = true
  notStolen : s.stolen = false

theorem ite_of {α} {P : α → Prop} {c : Prop} [Decidable c] {a b : α} (ha : P a) (hb : P b) :
    P (if c then a else b) := by
  split <;> assumption

theorem decide'_cases {P : Pc → Prop} (d sat nd : Bool) (ab : Abandon) (now : Nat) (alive : Nat → Bool) (c : Content)
    (hmk : P (.mkdir now)) (hun : ∀ w, P (.unlinkPending w)) (hfail : ∀ pid, P (.failed (.alreadyRunning pid)))
    (hpanic : P .panicked) : P (decide' d sat nd ab now alive c) := by
  cases c with
  | empty => cases ab <;> first | exact hmk | exact hun _
  | garbage => cases ab <;> first | exact hmk | exact hun _
  | invalid => exact hmk
  | pidts pid ts =>
    simp only [decide']
    repeat' apply ite_of
    all_goals first | exact hfail _ | exact hun _ | exact hpanic

theorem decide_range {d sat nd : Bool} {ab : Abandon} {now : Nat} {alive : Nat → Bool} {c : Content} {v : Pc}
    (hv : decide' d sat nd ab now alive c = v) :
    (∃ ts, v = .mkdir ts) ∨ (∃ w, v = .unlinkPending w) ∨ v.terminal = true :=
  hv ▸ decide'_cases (P := fun v => (∃ ts, v = .mkdir ts) ∨ (∃ w, v = .unlinkPending w) ∨ v.terminal = true)
    d sat nd ab now alive c
    (Or.inl ⟨_, rfl⟩) (fun _ => Or.inr (Or.inl ⟨_, rfl⟩)) (fun _ => Or.inr (Or.inr rfl)) (Or.inr (Or.inr rfl))

theorem decide_pending_removable {d sat : Bool} {ab : Abandon} {now : Nat} {alive : Nat → Bool} {c : Content}
    {w : Why} (h : decide' d sat true ab now alive c = .unlinkPending w) :
    c = .empty ∨ c = .garbage ∨ c = .invalid ∨ ∃ pid ts, c = .pidts pid ts ∧ alive pid = false := by
  cases c with
  | empty => exact Or.inl rfl
  | garbage => exact Or.inr (Or.inl rfl)
  | invalid => exact Or.inr (Or.inr (Or.inl rfl))
  | pidts pid ts =>
    refine Or.inr (Or.inr (Or.inr ⟨pid, ts, rfl, ?_⟩))
    cases hal : alive pid with
    | false => rfl
    | true => simp [decide', hal] at h

theorem sect_not_terminal {v : Pc} (h : v.sect = true) : v.terminal = false := by
  cases v <;> first | rfl | cases h

def GInv.View (s : State) : Pc → Prop
  | .opened i => s.cell = some i
  | .readDone c => ∃ i, s.cell = some i ∧ (s.files i = c ∨ (s.files i = .invalid ∧ c = .garbage))
  | .unlinkPending _ => ∃ i, s.cell = some i ∧ Removable s (s.files i)
  | .created _ => False
  | _ => True

structure GInv.At (s : State) (q : Nat) (x : Pc) : Prop where
  idle : q < s.n ∨ x = .start
  live : q < s.n → x.terminal = false → s.alive (pidOf q) = true
  guard : x.sect = true → s.guard = some q
  owner : x.owns = true → s.cell = some (inoOf q) ∧ ∃ ts, s.files (inoOf q) = .pidts (pidOf q) ts
  view : GInv.View s x

section
variable {s : State}

theorem GInv.atPc (h : GInv s) (q : Nat) : At s q (s.pc q) := by
  refine ⟨(Nat.lt_or_ge q s.n).imp_right (h.idle q), h.liveness q, h.inSect q, h.owners q, ?_⟩
  cases hx : s.pc q with
  | opened i => exact h.opened q i hx
  | readDone c => exact h.read q c hx
  | unlinkPending w => exact h.pending q w hx
  | created ts => exact h.noCreated q ts hx
  | _ => trivial

theorem GInv.of_at (hg : s.guarded = true) (hnd : s.staleNeedsDead = true) (hst : s.stolen = false)
    (hat : ∀ q, At s q (s.pc q))
    (hby : ∀ p, s.guard = some p → p < s.n ∧ ((s.pc p).sect = true ∨ s.pc p = .dropCheck))
    (hlink : ∀ i, s.cell = some i → i ≠ 0 → ∃ o, i = inoOf o ∧ (s.pc o).owns = true) : GInv s :=
  have view : ∀ {q x}, s.pc q = x → View s x := fun hx => hx ▸ (hat _).view
  ⟨hg, hnd, fun q hq => (hat q).idle.resolve_left (Nat.not_lt.2 hq), fun q => (hat q).live, fun q => (hat q).guard,
    hby, fun _ _ hq => view hq, fun _ _ hq => view hq, fun _ _ hq => view hq, fun _ _ hq => view hq,
    fun q => (hat q).owner, hlink, hst⟩

theorem GInv.View.outside {s' : State} {x : Pc} (h : View s x) (hx : x.sect = false) : View s' x := by
  cases x <;> first | exact h | cases hx

theorem GInv.owners_unique (h : GInv s) (p q : Nat)
    (hp : (s.pc p).owns = true) (hq : (s.pc q).owns = true) : p = q :=
  inoOf_inj (Option.some.inj ((h.owners p hp).1.symm.trans (h.owners q hq).1))

theorem GInv.removable_not_owned (h : GInv s) {i : Nat} (hcell : s.cell = some i)
    (hr : Removable s (s.files i)) (o : Nat) : (s.pc o).owns = false := by
  cases ho : (s.pc o).owns with
  | false => rfl
  | true =>
    obtain ⟨hc, ts, hf⟩ := h.owners o ho
    have hon : o < s.n := Nat.lt_of_not_le fun hle => by rw [h.idle o hle] at ho; cases ho
    obtain rfl : inoOf o = i := Option.some.inj (hc.symm.trans hcell)
    rw [hf] at hr
    rcases hr with hr | hr | hr | ⟨pid, ts', hc', hd⟩
    · cases hr
    · cases hr
    · cases hr
    · cases hc'
      rw [h.liveness o hon (owns_not_terminal ho)] at hd; cases hd

theorem steals_false_of_unowned {p i : Nat} (h : ∀ o, o ≠ p → (s.pc o).owns = false) : steals s p i = false := by
  cases i with
  | zero => rfl
  | succ q =>
    by_cases hq : q = p
    · subst hq; exact steals_own s q
    · simp [steals, h q hq]

theorem GInv.outside (h : GInv s) {q : Nat} (hq : s.guard ≠ some q) : (s.pc q).sect = false :=
  Bool.eq_false_iff.2 fun hs => hq (h.inSect q hs)

theorem GInv.others_outside (h : GInv s) {p : Nat} (hg : s.guard = some p) (q : Nat) (hqp : q ≠ p) :
    (s.pc q).sect = false :=
  h.outside fun e => hqp (Option.some.inj (hg.symm.trans e)).symm

theorem GInv.sole_owner (h : GInv s) {p : Nat} (hp : (s.pc p).owns = true) (o : Nat) (ho : o ≠ p) :
    (s.pc o).owns = false :=
  Bool.eq_false_iff.2 fun hoo => ho (h.owners_unique o p hoo hp)

theorem guardBy_moved {p : Nat} {v : Pc} {g : Option Nat} (hp : p < s.n)
    (hg : g = if v.sect = true then some p else none) (q : Nat) (hq : g = some q) :
    q < s.n ∧ ((upd s.pc p v q).sect = true ∨ upd s.pc p v q = .dropCheck) := by
  rw [hg] at hq
  split at hq
  next hs => cases hq; exact ⟨hp, Or.inl (by rw [upd_same]; exact hs)⟩
  next => cases hq

theorem GInv.sectMove (h : GInv s) {p : Nat} {x v : Pc} {g : Option Nat} (hp : p < s.n) (hpc : s.pc p = x)
    (hout : ∀ q, q ≠ p → (s.pc q).sect = false) (hg : g = if v.sect = true then some p else none) (hv : View s v)
    (hx : x.terminal = false := by rfl) (hown : v.owns = x.owns := by rfl) :
    GInv { s with guard := g, pc := upd s.pc p v } :=
  .of_at h.guarded h.needsDead h.notStolen
    (forall_upd ⟨Or.inl hp, fun _ _ => h.liveness p hp (hpc ▸ hx),
        fun hs => by rw [hg, if_pos hs], fun ho => h.owners p (by rw [hpc, ← hown]; exact ho), hv⟩
      fun q hq => { h.atPc q with
        guard := fun hs => by rw [hout q hq] at hs; cases hs
        view := (h.atPc q).view.outside (hout q hq) })
    (guardBy_moved hp hg)
    fun i hi hi0 => (h.linked i hi hi0).imp fun o hoo => ⟨hoo.1,
      forall_upd (Φ := fun o (y : Pc) => (s.pc o).owns = true → y.owns = true)
        (fun ho => by rw [hown, ← hpc]; exact ho) (fun _ _ ho => ho) o hoo.2⟩

theorem GInv.advance (h : GInv s) {p : Nat} {x v : Pc} (hp : p < s.n) (hpc : s.pc p = x) (hv : View s v)
    (hx : x.sect = true := by rfl) (hown : v.owns = x.owns := by rfl) (hvs : v.sect = true := by rfl) :
    GInv { s with pc := upd s.pc p v } := by
  have hg := h.inSect p (hpc ▸ hx)
  exact h.sectMove hp hpc (h.others_outside hg) (by rw [hg, if_pos hvs]) hv (sect_not_terminal hx) hown

theorem GInv.fail (h : GInv s) {p : Nat} {x v : Pc} (hp : p < s.n) (hpc : s.pc p = x) (hvt : v.terminal = true)
    (hx : x.sect = true := by rfl) (hxo : x.owns = false := by rfl) :
    GInv { s with guard := none, pc := upd s.pc p v } := by
  obtain ⟨hvs, hvo, hv⟩ : v.sect = false ∧ v.owns = false ∧ View s v := by
    cases v <;> first | contradiction | exact ⟨rfl, rfl, trivial⟩
  exact h.sectMove hp hpc (h.others_outside (h.inSect p (hpc ▸ hx))) (by rw [hvs]; rfl) hv
    (sect_not_terminal hx) (hvo.trans hxo.symm)

theorem GInv.unlink (h : GInv s) {p i : Nat} {x v : Pc} {g : Option Nat} (hp : p < s.n) (hpc : s.pc p = x)
    (hout : ∀ q, q ≠ p → (s.pc q).sect = false) (hno : ∀ o, o ≠ p → (s.pc o).owns = false)
    (hg : g = if v.sect = true then some p else none) (hv : ∀ s', View s' v)
    (hx : x.terminal = false := by rfl) (hvo : v.owns = false := by rfl) :
    GInv { s with cell := none, stolen := s.stolen || steals s p i, guard := g, pc := upd s.pc p v } := by
  refine .of_at h.guarded h.needsDead ?_
    (forall_upd ⟨Or.inl hp, fun _ _ => h.liveness p hp (hpc ▸ hx),
        fun hs => by rw [hg, if_pos hs], fun ho => (by rw [hvo] at ho; cases ho), hv _⟩
      fun q hq => { h.atPc q with
        guard := fun hs => by rw [hout q hq] at hs; cases hs
        owner := fun ho => by rw [hno q hq] at ho; cases ho
        view := (h.atPc q).view.outside (hout q hq) })
    (guardBy_moved hp hg) nofun
  show (s.stolen || steals s p i) = false
  rw [h.notStolen, steals_false_of_unowned hno]; rfl

theorem GInv.link (h : GInv s) {p ts : Nat} (hp : p < s.n) (hx : (s.pc p).terminal = false)
    (hg : s.guard = some p) (hcell : s.cell = none) :
    GInv { s with cell := some (inoOf p), files := upd s.files (inoOf p) (.pidts (pidOf p) ts), guard := none,
                  pc := upd s.pc p .holding } :=
  .of_at h.guarded h.needsDead h.notStolen
    (forall_upd ⟨Or.inl hp, fun _ _ => h.liveness p hp hx, nofun,
        fun _ => ⟨rfl, ts, upd_same _ _ _⟩, trivial⟩
      fun q hq => { h.atPc q with
        guard := fun hs => by rw [h.others_outside hg q hq] at hs; cases hs
        owner := fun ho => nomatch hcell.symm.trans (h.owners q ho).1
        view := (h.atPc q).view.outside (h.others_outside hg q hq) })
    nofun
    fun i hi _ => ⟨p, (Option.some.inj hi).symm, by show (upd s.pc p Pc.holding p).owns = true; rw [upd_same]; rfl⟩

/-- the command's work is done: the holder turns to its Drop (outside every sequence, like before) -/
theorem GInv.work (h : GInv s) {p : Nat} (hp : p < s.n) (hpc : s.pc p = .holding) :
    GInv { s with pc := upd s.pc p .dropCheck } := by
  refine .of_at h.guarded h.needsDead h.notStolen
    (forall_upd ⟨Or.inl hp, fun _ _ => h.liveness p hp (hpc ▸ rfl), nofun,
      fun _ => h.owners p (hpc ▸ rfl), trivial⟩ fun q _ => { h.atPc q with })
    (fun q hq => ?_)
    fun i hi hi0 => (h.linked i hi hi0).imp fun o hoo => ⟨hoo.1,
      forall_upd (Φ := fun o (y : Pc) => (s.pc o).owns = true → y.owns = true) (fun _ => rfl) (fun _ _ ho => ho) o
        hoo.2⟩
  obtain ⟨hqn, hqs⟩ := h.guardBy q hq
  have hqp : q ≠ p := fun e => by rw [e, hpc] at hqs; rcases hqs with h | h <;> cases h
  exact ⟨hqn, by show (upd s.pc p _ q).sect = true ∨ upd s.pc p _ q = _; rw [upd_other _ _ _ _ hqp]; exact hqs⟩

theorem GInv.takeGuard (h : GInv s) {p : Nat} (hp : p < s.n) (hg : s.guard = none) (hpc : s.pc p = .dropCheck) :
    GInv { s with guard := some p } :=
  .of_at h.guarded h.needsDead h.notStolen
    (fun q => { h.atPc q with guard := fun hs => nomatch hg.symm.trans (h.inSect q hs) })
    (fun q hq => by cases hq; exact ⟨hp, Or.inr hpc⟩) h.linked

theorem Removable.mono {s' : State} {c : Content} (h : Removable s c)
    (hdead : ∀ pid, s.alive pid = false → s'.alive pid = false) : Removable s' c :=
  h.imp_right (Or.imp_right (Or.imp_right fun ⟨pid, ts, hc, hd⟩ => ⟨pid, ts, hc, hdead pid hd⟩))

theorem GInv.exit (h : GInv s) {p : Nat} (hterm : (s.pc p).terminal = true) :
    GInv { s with alive := upd s.alive (pidOf p) false } := by
  refine .of_at h.guarded h.needsDead h.notStolen
    (fun q => { h.atPc q with live := fun hq hqt => ?_, view := ?_ }) h.guardBy h.linked
  · have hqp : q ≠ p := fun e => by rw [e, hterm] at hqt; cases hqt
    show upd s.alive (pidOf p) false (pidOf q) = true
    rw [upd_other _ _ _ _ fun e => hqp (pidOf_inj e)]; exact h.liveness q hq hqt
  · -- only a pending unlink's view speaks of liveness: what was removable stays removable
    have hv := (h.atPc q).view
    generalize s.pc q = x at hv
    cases x <;> first
      | exact hv
      | exact hv.imp fun i hi => ⟨hi.1, hi.2.mono
          (forall_upd (Φ := fun pid b => s.alive pid = false → b = false) (fun _ => rfl) fun _ _ hd => hd)⟩

theorem GInv.gstep (h : GInv s) (p : Nat) : GInv ((Lock.gstep s p).getD s) := by
  unfold Lock.gstep
  by_cases hp : p < s.n
  · rw [if_pos hp]
    have exit : ∀ {x}, s.pc p = x → x.terminal = true → GInv ((if s.exits = true ∧ s.alive (pidOf p) = true
        then some { s with alive := upd s.alive (pidOf p) false } else none).getD s) := fun hx hxt => by
      split
      next => exact h.exit (hx ▸ hxt)
      next => exact h
    cases hpc : s.pc p with
    | start =>
      simp only []
      split
      next hg => exact h.sectMove hp hpc (fun q _ => h.outside (by rw [hg]; nofun)) rfl trivial
      next => exact h
    | locked =>
      simp only []
      split
      next => exact h.advance hp hpc trivial
      next => exact h.advance hp hpc trivial
    | sawPresent =>
      simp only []
      split
      next i hcell => exact h.advance hp hpc hcell
      next => exact h.fail hp hpc rfl
    | opened i =>
      have hci := h.opened p i hpc
      simp only []
      by_cases hinv : s.files i = .invalid
      · rw [if_pos hinv]
        split
        next => exact h.advance hp hpc ⟨i, hci, Or.inr ⟨hinv, rfl⟩⟩
        next => exact h.fail hp hpc rfl
      · rw [if_neg hinv]; exact h.advance hp hpc ⟨i, hci, Or.inl rfl⟩
    | readDone c =>
      obtain ⟨i, hci, hfc⟩ := h.read p c hpc
      simp only []
      rcases decide_range rfl with ⟨ts, hd⟩ | ⟨w, hd⟩ | hd
      · rw [hd]; exact h.advance hp hpc trivial
      · have hrem : Removable s (s.files i) := by
          rw [h.needsDead] at hd
          rcases hfc with hfc | ⟨hfi, _⟩
          · rw [hfc]; exact decide_pending_removable hd
          · rw [hfi]; exact Or.inr (Or.inr (Or.inl rfl))
        rw [hd]; exact h.advance hp hpc ⟨i, hci, hrem⟩
      · rw [if_pos hd]; exact h.fail hp hpc hd
    | unlinkPending w =>
      obtain ⟨i, hci, hrem⟩ := h.pending p w hpc
      have hg := h.inSect p (hpc ▸ rfl)
      simp only []
      split
      next j hcj =>
        exact h.unlink hp hpc (h.others_outside hg) (fun o _ => h.removable_not_owned hci hrem o) hg
          fun _ => trivial
      next hcn => rw [hci] at hcn; cases hcn
    | mkdir ts => exact h.advance hp hpc trivial
    | create ts =>
      simp only []
      split
      next hcell => exact h.link hp (hpc ▸ rfl) (h.inSect p (hpc ▸ rfl)) hcell
      next => exact h.fail hp hpc rfl
    | created ts => exact h
    | holding => exact h.work hp hpc
    | dropCheck =>
      have hown := h.owners p (hpc ▸ rfl)
      simp only []
      by_cases hg : s.guard = some p
      · rw [if_pos hg]
        split
        next i hcell =>
          rw [if_neg (check_passes (Or.inr hown.1) hcell)]
          exact h.sectMove hp hpc (h.others_outside hg) hg trivial
        next hcell => rw [hown.1] at hcell; cases hcell
      · rw [if_neg hg]
        split
        next hg => exact h.takeGuard hp hg hpc
        next => exact h
    | dropUnlink =>
      have hg := h.inSect p (hpc ▸ rfl)
      simp only []
      split
      next i hcell =>
        exact h.unlink hp hpc (h.others_outside hg) (h.sole_owner (hpc ▸ rfl)) rfl fun _ => trivial
      next hcell => rw [(h.owners p (hpc ▸ rfl)).1] at hcell; cases hcell
    | done | failed _ | panicked => exact exit hpc rfl
  · rw [if_neg hp]; exact h

/-- Ctrl-C at the confirmation prompt (`release_held_locks` under the guard, then exit) -/
theorem GInv.promptExit (h : GInv s) (p : Nat) : GInv (Lock.promptExit s p) := by
  unfold Lock.promptExit
  split
  next hc =>
    have hg : s.guard = none := hc.2.2 h.guarded
    have hown := h.owners p (hc.2.1 ▸ rfl)
    split
    next i hcell =>
      rw [if_neg (check_passes (Or.inr hown.1) hcell)]
      exact h.unlink hc.1 hc.2.1 (fun q _ => h.outside (by rw [hg]; nofun)) (h.sole_owner (hc.2.1 ▸ rfl)) hg
        fun _ => trivial
    next hcell => rw [hown.1] at hcell; cases hcell
  next => exact h

theorem GInv.stepEv (h : GInv s) (e : Ev) : GInv (Lock.stepEv s e) := by
  cases e with
  | tick d => exact { h with }
  | proc p =>
    show GInv (if s.guarded = true then (Lock.gstep s p).getD s else (step s p).getD s)
    rw [if_pos h.guarded]
    exact h.gstep p
  | promptInt p => exact h.promptExit p

end

theorem GInv.run (es : List Ev) : ∀ {s : State}, GInv s → GInv (Lock.run s es) := by
  induction es with
  | nil => intro s h; exact h
  | cons e es ih => intro s h; exact ih (h.stepEv e)

end Lock
