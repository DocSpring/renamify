import RModel.Model.History
import RModel.Model.HistorySpec
import RModel.Lemmas.ListFacts
/-
  What one command can do to the history.  Each of `apply_plan`, rename, undo and redo is a chain of checks that end
  in "rejected, nothing touched"; what lies behind the checks is the same alternative for all of them (`Commits`) and is
  stated once per command (`…_cases`), together with the equation of the path on which every check passes.
  Everything `Props/C10.lean` says about single commands and about runs follows from these.
-/

namespace History
open HistorySpec

section
variable {Tree Plan Backup H : Type}

theorem root_plan (h : H) : (EId.plan h : EId H).root = .plan h := rfl

theorem root_redo (i : EId H) (c : Nat) : (EId.redo i c).root = i.root := rfl

theorem root_revert (i : EId H) (c : Nat) : (EId.revert i c).root = .revert i c := rfl

variable [DecidableEq H]

theorem hasId_iff (es : List (Entry H)) (i : EId H) : hasId es i = true ↔ ∃ e ∈ es, e.id = i := by
  simp only [hasId, List.any_eq_true, beq_iff_eq]

theorem hasId_false_iff (es : List (Entry H)) (i : EId H) : hasId es i = false ↔ i ∉ es.map (·.id) := by
  simp only [hasId, List.any_eq_false, List.mem_map, beq_iff_eq, not_exists, not_and]

theorem hasRevertOf_iff (es : List (Entry H)) (i : EId H) :
    hasRevertOf es i = true ↔ ∃ e ∈ es, e.revertOf = some i := by
  simp only [hasRevertOf, List.any_eq_true, beq_iff_eq]

theorem hasId_append (es : List (Entry H)) (n : Entry H) (j : EId H) :
    hasId (es ++ [n]) j = (hasId es j || (n.id == j)) := by
  simp [hasId, List.any_append]

theorem hasId_append_left {es : List (Entry H)} {n : Entry H} {j : EId H} (h : hasId es j = true) :
    hasId (es ++ [n]) j = true := by
  rw [hasId_append, h]; rfl

theorem hasRevertOf_append (es : List (Entry H)) (n : Entry H) (j : EId H) :
    hasRevertOf (es ++ [n]) j = (hasRevertOf es j || (n.revertOf == some j)) := by
  simp [hasRevertOf, List.any_append]

theorem hasRedoOf_append (es : List (Entry H)) (n : Entry H) (j : EId H) :
    hasRedoOf (es ++ [n]) j = (hasRedoOf es j || (n.revertOf.isNone && isRedoOf j n.id)) := by
  simp [hasRedoOf, List.any_append]

theorem findEntry_some (es : List (Entry H)) (i : EId H) (e : Entry H) (h : findEntry es i = some e) :
    e ∈ es ∧ e.id = i :=
  ⟨List.mem_of_find?_eq_some h, by simpa using List.find?_some h⟩

theorem addEntry_none (es : List (Entry H)) (e : Entry H) (h : hasId es e.id = true) : addEntry es e = none := by
  simp [addEntry, h]

theorem addEntry_some (es : List (Entry H)) (e : Entry H) (h : hasId es e.id = false) :
    addEntry es e = some (es ++ [e]) := by
  simp [addEntry, h]

theorem lookup_put_same {α : Type} (m : List (EId H × α)) (i : EId H) (a : α) : lookup (put m i a) i = some a := by
  have h1 : (m.filter fun e => !(e.1 == i)).find? (fun e => e.1 == i) = none :=
    List.find?_eq_none.2 fun x hx hxi => by have := (List.mem_filter.1 hx).2; rw [hxi] at this; cases this
  unfold lookup put
  rw [List.find?_append, h1]
  simp only [Option.none_or, List.find?_singleton, beq_self_eq_true, if_true]

theorem lookup_put_other {α : Type} {m : List (EId H × α)} {i j : EId H} {a : α} (h : j ≠ i) :
    lookup (put m i a) j = lookup m j := by
  -- an entry found under `j` is not one of those `put` filters out
  have hp : (fun e : EId H × α => decide ((!(e.1 == i)) = true ∧ (e.1 == j) = true)) = fun e => e.1 == j :=
    funext fun e => by
      cases hj : e.1 == j with
      | false => simp
      | true => simp [beq_false_of_ne (fun hi => h ((eq_of_beq hj).symm.trans hi))]
  unfold lookup put
  rw [List.find?_append, List.find?_filter, hp, List.find?_singleton, if_neg (by simpa using Ne.symm h), Option.or_none]

/-- how a command that has passed its checks ends, `r` being its result from `w` -/
def Commits (w : World Tree Plan Backup H) (r : World Tree Plan Backup H × Outcome) (e : Entry H) (why : Prop) : Prop :=
  (r.2 = .ok ∧ hasId w.entries e.id = false ∧ r.1.entries = w.entries ++ [e]) ∨
  (r.2 = .failed ∧ r.1.entries = w.entries ∧ why)

theorem commits_entries {w : World Tree Plan Backup H} {r : World Tree Plan Backup H × Outcome} {e : Entry H} {why : Prop}
    (h : Commits w r e why) {form : Entry H → Prop} (hform : form e) :
    (∃ e, r.2 = .ok ∧ r.1.entries = w.entries ++ [e] ∧ hasId w.entries e.id = false ∧ form e) ∨
    (r.2 ≠ .ok ∧ r.1.entries = w.entries) := by
  rcases h with h | h
  · exact Or.inl ⟨e, h.1, h.2.2, h.2.1, hform⟩
  · exact Or.inr ⟨by rw [h.1]; decide, h.2.1⟩

variable (cfg : Cfg) (ops : Ops Tree Plan Backup H) (w : World Tree Plan Backup H)

/-- c3d511b: with the early check, an id that is already present is refused with the world untouched -/
theorem applyWithId_dup (hE : cfg.earlyDupCheck = true) (id : EId H) (p : Plan) (hd : hasId w.entries id = true) :
    applyWithId cfg ops w id p = (w, .rejected) := by
  simp [applyWithId, hd, hE]

theorem applyWithId_ok (id : EId H) (p : Plan) (t' : Tree) (b : Backup) (ha : ops.apply w.tree p = .ok t' b)
    (hf : hasId w.entries id = false) (hb : lookup w.backups id = none) :
    applyWithId cfg ops w id p =
      ({ clock := w.clock, tree := t', entries := w.entries ++ [{ id := id, revertOf := none }],
         plans := put w.plans id p, backups := put w.backups id b }, .ok) := by
  simp [applyWithId, ha, addEntry, hf, hb]

/-- with the early check `apply_plan` fails after a change only when the tree side stops half-way -/
theorem applyWithId_cases (id : EId H) (p : Plan) :
    applyWithId cfg ops w id p = (w, .rejected) ∨
    Commits w (applyWithId cfg ops w id p) { id := id, revertOf := none }
      (cfg.earlyDupCheck = true → ∃ t', ops.apply w.tree p = .partly t') := by
  unfold applyWithId addEntry
  dsimp only
  cases hd : hasId w.entries id with
  | true =>
    cases cfg.earlyDupCheck with
    | true => exact Or.inl rfl
    | false =>
      -- the duplicate is found by `add_entry`, after the tree side has run
      cases ops.apply w.tree p with
      | rejected => exact Or.inl rfl
      | partly t' => exact Or.inr (Or.inr ⟨rfl, rfl, nofun⟩)
      | ok t' b => cases cfg.planBeforeEntry <;> exact Or.inr (Or.inr ⟨rfl, rfl, nofun⟩)
  | false =>
    rw [Bool.and_false]
    cases ops.apply w.tree p with
    | rejected => exact Or.inl rfl
    | partly t' => exact Or.inr (Or.inr ⟨rfl, rfl, fun _ => ⟨t', rfl⟩⟩)
    | ok t' b => exact Or.inr (Or.inl ⟨rfl, hd, rfl⟩)

theorem rename_cases (s r : Bytes) :
    (((step cfg ops w (.rename s r)).2 = .rejected ∨ (step cfg ops w (.rename s r)).2 = .noop) ∧
      (step cfg ops w (.rename s r)).1 = w) ∨
    Commits w (step cfg ops w (.rename s r)) { id := .plan (ops.hash (s ++ r) w.clock), revertOf := none }
      (cfg.earlyDupCheck = true → ∃ t', ops.apply w.tree (ops.scan w.tree s r) = .partly t') := by
  rw [show step cfg ops w (.rename s r) = stepRename cfg ops w s r from rfl]
  unfold stepRename
  dsimp only
  cases ops.isEmpty (ops.scan w.tree s r) with
  | true => exact Or.inl ⟨Or.inr rfl, rfl⟩
  | false =>
    refine (applyWithId_cases cfg ops w (.plan (ops.hash (s ++ r) w.clock)) (ops.scan w.tree s r)).imp_left fun h => ?_
    exact ⟨Or.inl (congrArg Prod.snd h), congrArg Prod.fst h⟩

theorem undo_ok (t : Target H) (i : EId H) (e : Entry H) (p : Plan) (b : Backup) (t' : Tree)
    (hr : resolve w.entries true t = some i) (hf : findEntry w.entries i = some e) (h1 : e.revertOf = none)
    (h2 : hasRevertOf w.entries i = false) (hp : lookup w.plans i = some p) (hb : lookup w.backups i = some b)
    (hv : ops.revert w.tree p b = .ok t') (hd : hasId w.entries (revertId cfg i w.clock) = false) :
    step cfg ops w (.undo t) =
      ({ w with tree := t', entries := w.entries ++ [{ id := revertId cfg i w.clock, revertOf := some i }] }, .ok) := by
  simp [step, stepUndo, hr, hf, h1, h2, hp, hb, hv, addEntry, hd]

/-- with the pre-validation an undo fails after a change only because the revert id is taken -/
theorem undo_cases (t : Target H) :
    step cfg ops w (.undo t) = (w, .rejected) ∨
    ∃ i e, resolve w.entries true t = some i ∧ findEntry w.entries i = some e ∧ e.revertOf = none ∧
      hasRevertOf w.entries i = false ∧
      Commits w (step cfg ops w (.undo t)) { id := revertId cfg i w.clock, revertOf := some i }
        (cfg.undoPrevalidate = true → hasId w.entries (revertId cfg i w.clock) = true) := by
  rw [show step cfg ops w (.undo t) = stepUndo cfg ops w t from rfl]
  unfold stepUndo addEntry
  cases hr : resolve w.entries true t with
  | none => exact Or.inl rfl
  | some i =>
  dsimp only
  cases hf : findEntry w.entries i with
  | none => exact Or.inl rfl
  | some e =>
  dsimp only
  cases h1 : e.revertOf with
  | some j => exact Or.inl rfl
  | none =>
  cases h2 : hasRevertOf w.entries i with
  | true => exact Or.inl rfl
  | false =>
  cases lookup w.plans i with
  | none => exact Or.inl rfl
  | some p =>
  cases lookup w.backups i with
  | none => exact Or.inl rfl
  | some b =>
  refine Or.imp_right (fun h => ⟨i, e, rfl, hf, h1, h2, h⟩) ?_
  dsimp only
  cases ops.revert w.tree p b with
  | failed t' =>
    cases cfg.undoPrevalidate with
    | true => exact Or.inl rfl
    | false => exact Or.inr (Or.inr ⟨rfl, rfl, nofun⟩)
  | ok t' =>
    cases hd : hasId w.entries (revertId cfg i w.clock) with
    | true => exact Or.inr (Or.inr ⟨rfl, rfl, fun _ => rfl⟩)
    | false => exact Or.inr (Or.inl ⟨rfl, hd, rfl⟩)

/-- the stored plan goes to `apply_plan` under the id `redo-<id>-<now>` -/
theorem redo_eligible (t : Target H) (i : EId H) (p : Plan) (hr : resolve w.entries false t = some i)
    (h1 : hasId w.entries i = true) (h2 : hasRevertOf w.entries i = true)
    (h3 : cfg.redoOnce = true → hasRedoOf w.entries i = false) (hp : lookup w.plans i = some p)
    (hok : cfg.redoPrevalidate = true → (ops.apply w.tree p).isOk = true) :
    step cfg ops w (.redo t) = applyWithId cfg ops w (.redo i w.clock) p := by
  have h3' : (cfg.redoOnce && hasRedoOf w.entries i) = false := by
    cases hR : cfg.redoOnce <;> simp [h3, hR]
  have h4 : (cfg.redoPrevalidate && !(ops.apply w.tree p).isOk) = false := by
    cases hP : cfg.redoPrevalidate <;> simp [hok, hP]
  simp [step, stepRedo, hr, h1, h2, h3', hp, h4]

/-- the `redoOnce` check is 07a4584; behind the checks a redo ends as `apply_plan` does -/
theorem redo_cases (t : Target H) :
    step cfg ops w (.redo t) = (w, .rejected) ∨
    ∃ i p, resolve w.entries false t = some i ∧ hasId w.entries i = true ∧ hasRevertOf w.entries i = true ∧
      (cfg.redoOnce = true → hasRedoOf w.entries i = false) ∧ lookup w.plans i = some p ∧
      (cfg.redoPrevalidate = true → (ops.apply w.tree p).isOk = true) ∧
      Commits w (step cfg ops w (.redo t)) { id := .redo i w.clock, revertOf := none }
        (cfg.earlyDupCheck = true → ∃ t', ops.apply w.tree p = .partly t') := by
  rw [show step cfg ops w (.redo t) = stepRedo cfg ops w t from rfl]
  unfold stepRedo
  cases hr : resolve w.entries false t with
  | none => exact Or.inl rfl
  | some i =>
  dsimp only
  cases h1 : hasId w.entries i with
  | false => exact Or.inl rfl
  | true =>
  cases h2 : hasRevertOf w.entries i with
  | false => exact Or.inl rfl
  | true =>
  cases h3 : cfg.redoOnce && hasRedoOf w.entries i with
  | true => exact Or.inl rfl
  | false =>
  cases hp : lookup w.plans i with
  | none => exact Or.inl rfl
  | some p =>
  dsimp only
  cases h4 : cfg.redoPrevalidate && !(ops.apply w.tree p).isOk with
  | true => exact Or.inl rfl
  | false =>
  refine (applyWithId_cases cfg ops w (.redo i w.clock) p).imp_right fun h => ⟨i, p, rfl, h1, h2, ?_, hp, ?_, h⟩
  · intro hR; rw [hR] at h3; exact h3
  · intro hP; rw [hP] at h4; exact Bool.not_inj h4

theorem step_entries (c : Cmd H) :
    (∃ e, (step cfg ops w c).2 = .ok ∧ (step cfg ops w c).1.entries = w.entries ++ [e] ∧ hasId w.entries e.id = false ∧
      ∀ j k, e.id = .revert j k → cfg.revertIdOfRoot = false → e.revertOf = some j) ∨
    ((step cfg ops w c).2 ≠ .ok ∧ (step cfg ops w c).1.entries = w.entries) := by
  cases c with
  | rename s r =>
    rcases rename_cases cfg ops w s r with h | h
    · exact Or.inr ⟨by rcases h.1 with h1 | h1 <;> (rw [h1]; nofun), congrArg World.entries h.2⟩
    · exact commits_entries h nofun
  | undo t =>
    rcases undo_cases cfg ops w t with h | ⟨i, _, _, _, _, _, h⟩
    · exact Or.inr (by rw [h]; exact ⟨nofun, rfl⟩)
    · exact commits_entries h fun j k hid hRI => by simp only [revertId, hRI] at hid; cases hid; rfl
  | redo t =>
    rcases redo_cases cfg ops w t with h | ⟨_, _, _, _, _, _, _, _, h⟩
    · exact Or.inr (by rw [h]; exact ⟨nofun, rfl⟩)
    · exact commits_entries h nofun
  | tick => exact Or.inr ⟨nofun, rfl⟩

theorem run_invariant (P : World Tree Plan Backup H → Prop)
    (hstep : ∀ w c, P w → P (step cfg ops w c).1) (w : World Tree Plan Backup H) (cs : List (Cmd H)) (h : P w) :
    P (run cfg ops w cs).1 := by
  induction cs generalizing w with
  | nil => exact h
  | cons c cs ih => exact ih _ (hstep w c h)

theorem run_prefix (cs : List (Cmd H)) :
    w.entries <+: (run cfg ops w cs).1.entries := by
  refine run_invariant cfg ops (w.entries <+: ·.entries) (fun w' c h => h.trans ?_) w cs (List.prefix_refl _)
  rcases step_entries cfg ops w' c with ⟨e, _, he, _⟩ | ⟨_, he⟩ <;> rw [he]
  · exact List.prefix_append _ _
  · exact List.prefix_refl _

def RevForm (es : List (Entry H)) : Prop := ∀ e ∈ es, ∀ j c, e.id = .revert j c → e.revertOf = some j

theorem step_revForm (hRI : cfg.revertIdOfRoot = false) (c : Cmd H) (h : RevForm w.entries) :
    RevForm (step cfg ops w c).1.entries := by
  rcases step_entries cfg ops w c with ⟨e, _, he, _, hform⟩ | ⟨_, he⟩ <;> rw [he]
  · exact List.forall_mem_snoc h fun j k hid => hform j k hid hRI
  · exact h

end
end History
