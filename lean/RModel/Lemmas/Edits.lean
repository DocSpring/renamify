import RModel.Model.Edits
/-
  The content-edit loop (`apply.rs`, STEP 2 on one file): on an edit list consistent with the file it is the left-to-right
  splice `Edits.spec`; and as the code has it now, every failure it reports is a mismatch, never a panic.
-/

namespace Edits

theorem sliceStr_of {s : Bytes} {a b : Nat}
    (h : a ≤ b ∧ b ≤ s.length ∧ isCharBoundary s a = true ∧ isCharBoundary s b = true) :
    sliceStr s a b = some ((s.take b).drop a) :=
  if_pos h

theorem sliceStr_some {s : Bytes} {a b : Nat} {r : Bytes} (h : sliceStr s a b = some r) :
    r = (s.take b).drop a ∧ a ≤ b ∧ b ≤ s.length ∧ isCharBoundary s a = true ∧ isCharBoundary s b = true := by
  unfold sliceStr at h
  split at h
  · exact ⟨(Option.some.inj h).symm, ‹_›⟩
  · cases h

theorem run_append (orig : Bytes) (m : Bytes) (xs ys : List Edit) :
    run orig m (xs ++ ys) =
      match run orig m xs with
      | .error x => .error x
      | .ok m' => run orig m' ys := by
  induction xs generalizing m with
  | nil => rfl
  | cons x xs ih =>
    simp only [List.cons_append, run, runG]
    cases stepG true orig m x with
    | error e => rfl
    | ok m' => exact ih m'

theorem applyEdits_cons (c : Bytes) (e : Edit) (es : List Edit) :
    applyEdits c (e :: es) =
      match applyEdits c es with
      | .error x => .error x
      | .ok m => step c m e := by
  have h : applyEdits c (e :: es) = run c c (es.reverse ++ [e]) := by
    rw [applyEdits, applyEditsG, List.reverse_cons]
  have h2 : applyEdits c es = run c c es.reverse := rfl
  rw [h, run_append, h2]
  cases run c c es.reverse with
  | error x => rfl
  | ok m =>
    simp only [run, runG, step]
    cases stepG true c m e <;> rfl

theorem consistent_le {c : Bytes} {off : Nat} {es : List Edit} (h : Consistent c off es) :
    off ≤ c.length := by
  cases es with
  | nil => exact h
  | cons e es => exact Nat.le_trans h.1 (Nat.le_trans h.2.1 h.2.2.1)

def StartsOk (s : Bytes) : Prop := ∀ b, s.head? = some b → isCont b = false

theorem startsOk_append {x y : Bytes} (hx : StartsOk x) (hy : StartsOk y) : StartsOk (x ++ y) := by
  cases x with
  | nil => exact hy
  | cons a x => exact hx

theorem startsOk_take {s : Bytes} (n : Nat) (h : StartsOk s) : StartsOk (s.take n) := by
  cases n with
  | zero => exact fun _ hb => nomatch hb
  | succ n => cases s <;> exact h

theorem startsOk_drop {c : Bytes} {i : Nat} (h0 : i ≠ 0) (hb : isCharBoundary c i = true) : StartsOk (c.drop i) := by
  intro b hc
  rw [List.head?_drop] at hc
  rw [isCharBoundary, if_neg h0, hc] at hb
  exact Bool.not_eq_true' _ ▸ hb

theorem isCharBoundary_append {l r : Bytes} (hr : StartsOk r) : isCharBoundary (l ++ r) l.length = true := by
  rw [isCharBoundary]
  split
  · rfl
  · rw [List.getElem?_append_right (Nat.le_refl _), Nat.sub_self, ← List.head?_eq_getElem?]
    cases r with
    | nil => simp only [List.head?_nil, List.append_nil, decide_true]
    | cons b r => exact (Bool.not_eq_true' _).mpr (hr b rfl)

theorem isCharBoundary_congr {s s' : Bytes} {i : Nat} {b : UInt8} (h : s[i]? = some b) (h' : s'[i]? = some b) :
    isCharBoundary s i = isCharBoundary s' i := by
  rw [isCharBoundary, isCharBoundary, h, h']

theorem startsOk_spec (c : Bytes) (off : Nat) (es : List Edit) (h0 : off ≠ 0)
    (hb : isCharBoundary c off = true) (h : Consistent c off es) : StartsOk (spec c off es) := by
  induction es generalizing off with
  | nil => exact startsOk_drop h0 hb
  | cons e es ih =>
    obtain ⟨h1, h2, _, _, hbe, _, hafter, hrest⟩ := h
    exact startsOk_append (startsOk_append (startsOk_take _ (startsOk_drop h0 hb)) hafter)
      (ih e.stop (by omega) hbe hrest)

theorem take_split (c : Bytes) {a b : Nat} (h : a ≤ b) : c.take b = c.take a ++ (c.drop a).take (b - a) := by
  rw [← List.take_add, Nat.add_sub_cancel' h]

/-- applying consistent edits back to front yields the left-to-right specification -/
theorem applyEdits_prefix (c : Bytes) (off : Nat) (es : List Edit) (h : Consistent c off es) :
    applyEdits c es = .ok (c.take off ++ spec c off es) := by
  induction es generalizing off with
  | nil => exact congrArg _ (List.take_append_drop off c).symm
  | cons e es ih =>
    obtain ⟨h1, h2, h3, hbs, hbe, hbefore, hafter, hrest⟩ := h
    have hslice : sliceStr c e.start e.stop = some e.before := by
      rw [sliceStr_of ⟨h2, h3, hbs, hbe⟩, hbefore]
    -- the working copy `m`: the original up to `e.stop`, then the edits already applied
    have hlen : (c.take e.stop).length = e.stop := List.length_take_of_le h3
    have hb2 : isCharBoundary (c.take e.stop ++ spec c e.stop es) e.stop = true := by
      by_cases hz : e.stop = 0
      · rw [hz, isCharBoundary, if_pos rfl]
      · have := isCharBoundary_append (l := c.take e.stop) (startsOk_spec c e.stop es hz hbe hrest)
        rwa [hlen] at this
    have hb1 : isCharBoundary (c.take e.stop ++ spec c e.stop es) e.start = true := by
      by_cases hlt : e.start < e.stop
      · -- left of `e.stop` the working copy is the original
        have hc : c[e.start]? = some (c[e.start]'(Nat.lt_of_lt_of_le hlt h3)) := List.getElem?_eq_getElem _
        refine (isCharBoundary_congr ?_ hc).trans hbs
        rw [List.getElem?_append_left (hlen.symm ▸ hlt), List.getElem?_take_of_lt hlt, hc]
      · rwa [Nat.le_antisymm h2 (Nat.le_of_not_lt hlt)]
    have hrr : replaceRange (c.take e.stop ++ spec c e.stop es) e.start e.stop e.after
        = some (c.take off ++ spec c off (e :: es)) := by
      rw [replaceRange, if_pos ⟨h2, by rw [List.length_append, hlen]; exact Nat.le_add_right _ _, hb1, hb2⟩,
        List.take_append_of_le_length (hlen.symm ▸ h2), List.drop_append_of_le_length (Nat.le_of_eq hlen.symm),
        List.take_take, Nat.min_eq_left h2, List.drop_eq_nil_of_le (Nat.le_of_eq hlen), List.nil_append, spec,
        take_split c h1, List.append_assoc, List.append_assoc, List.append_assoc]
    rw [applyEdits_cons, ih e.stop hrest]
    simp only [step, stepG, hslice, ne_eq, not_true_eq_false, if_false, hrr]

theorem applyEdits_eq_spec (c : Bytes) (es : List Edit) (h : Consistent c 0 es) :
    applyEdits c es = .ok (spec c 0 es) :=
  applyEdits_prefix c 0 es h

theorem stepG_true_ne_panic (c m : Bytes) (e : Edit) : stepG true c m e ≠ .error .panic := by
  fun_cases stepG true c m e <;> nofun

theorem runG_true_ne_panic (c : Bytes) (l : List Edit) (m : Bytes) : runG true c m l ≠ .error .panic := by
  fun_induction runG true c m l
  case case1 => nofun
  case case2 hs => exact fun h => stepG_true_ne_panic _ _ _ (hs.trans h)
  case case3 ih => exact ih

theorem applyEdits_ne_panic (c : Bytes) (es : List Edit) : applyEdits c es ≠ .error .panic :=
  runG_true_ne_panic c es.reverse c

end Edits
