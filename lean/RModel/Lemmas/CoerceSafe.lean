import RModel.Model.RenamePlan
import RModel.Lemmas.RenamePlan
import RModel.Lemmas.CaseModelWords
import RModel.Lemmas.CaseModelAcr
/-
  File-name coercion (`coercion.rs::apply_coercion`, model `RenamePlan.applyCoercion`) never produces an unusable file
  name: for a slash-free container and a replacement that has a letter or digit and no `/`, whatever it returns is
  non-empty, slash-free and not `.`.

  Route: `tokenize` yields non-empty alphanumeric words (at least one when the text has a letter or digit); `render_tokens`
  joins them with one of `_ - . space` or nothing; `replace_case_insensitive` is the scan of `Lemmas/RenamePlan.lean` and
  puts the rendering into a slash-free text at least once.
-/
namespace CoerceSafeL
open B RenamePlan RenamePlanL CaseModel

theorem isAlnum_toUpper (c : UInt8) (h : isAlnum c = true) : isAlnum (toUpper c) = true := by
  cases hl : isLower c with
  | false => rw [toUpper_id hl]; exact h
  | true => exact upper_alnum (toUpper_of_lower hl)

def AlnumWord (t : Bytes) : Prop := t ≠ [] ∧ ∀ c ∈ t, isAlnum c = true

theorem AlnumWord.map {f : UInt8 → UInt8} (hf : ∀ c, isAlnum c = true → isAlnum (f c) = true) {t : Bytes}
    (h : AlnumWord t) : AlnumWord (t.map f) :=
  ⟨fun h0 => h.1 (List.map_eq_nil_iff.1 h0), fun _ hc => by
    obtain ⟨x, hx, rfl⟩ := List.mem_map.1 hc
    exact hf x (h.2 x hx)⟩

theorem alnumWord_lower {t : Bytes} (h : AlnumWord t) : AlnumWord (lower t) :=
  h.map fun c hc => by rw [isAlnum_toLower_iff]; exact hc

theorem alnumWord_upper {t : Bytes} (h : AlnumWord t) : AlnumWord (upper t) := h.map isAlnum_toUpper

theorem alnumWord_capitalize {t : Bytes} (h : AlnumWord t) : AlnumWord (capitalize t) := by
  cases t with
  | nil => exact absurd rfl h.1
  | cons c cs =>
    refine ⟨List.cons_ne_nil _ _, fun x hx => ?_⟩
    rcases List.mem_cons.1 hx with rfl | hx
    · exact isAlnum_toUpper c (h.2 c List.mem_cons_self)
    · exact h.2 x (List.mem_cons_of_mem _ hx)

theorem AlnumWord.usable {t : Bytes} (h : AlnumWord t) : (47 : UInt8) ∉ t ∧ t.any isAlnum = true := by
  obtain ⟨c, cs, rfl⟩ := List.exists_cons_of_ne_nil h.1
  exact ⟨fun h47 => absurd (h.2 47 h47) (by decide), by simp [h.2 c List.mem_cons_self]⟩

/-- loop invariant of `tokenize`; `seen`: a letter or digit has been read -/
structure TokInv (seen : Bool) (st : TokSt) : Prop where
  toks : ∀ t ∈ st.toks, AlnumWord t
  cur : ∀ c ∈ st.cur, isAlnum c = true
  prog : seen = true → st.toks ≠ [] ∨ st.cur ≠ []

theorem tokFlush_inv {seen : Bool} {st : TokSt} (h : TokInv seen st) :
    (∀ t ∈ tokFlush st, AlnumWord t) ∧ (seen = true → tokFlush st ≠ []) := by
  unfold tokFlush
  split
  · rename_i he
    exact ⟨h.toks, fun hs => (h.prog hs).resolve_right (fun hc => hc (List.isEmpty_iff.1 he))⟩
  · rename_i hne
    refine ⟨fun t ht => ?_, fun _ => by simp⟩
    rcases List.mem_append.1 ht with ht | ht
    · exact h.toks t ht
    · rw [List.mem_singleton.1 ht]
      exact alnumWord_lower ⟨fun h0 => hne (by rw [h0]; rfl), h.cur⟩

theorem TokInv.flush {seen : Bool} {st : TokSt} (h : TokInv seen st) (pl pu : Bool) (n : Nat) :
    TokInv seen { toks := tokFlush st, cur := [], prevL := pl, prevU := pu, consU := n } :=
  ⟨(tokFlush_inv h).1, fun _ hc => (nomatch hc), fun hs => Or.inl ((tokFlush_inv h).2 hs)⟩

theorem TokInv.push {toks : List Bytes} {cur : Bytes} {c : UInt8} (ht : ∀ t ∈ toks, AlnumWord t)
    (hcur : ∀ x ∈ cur, isAlnum x = true) (hc : isAlnum c = true) (seen pl pu : Bool) (n : Nat) :
    TokInv seen { toks := toks, cur := cur ++ [c], prevL := pl, prevU := pu, consU := n } :=
  ⟨ht, fun x hx => (List.mem_append.1 hx).elim (hcur x) (fun hx => List.mem_singleton.1 hx ▸ hc),
    fun _ => Or.inr (by simp)⟩

theorem tokStep_inv {seen : Bool} {st : TokSt} (h : TokInv seen st) (c : UInt8) :
    TokInv (seen || isAlnum c) (tokStep st c) := by
  unfold tokStep
  by_cases hd : isDelim c = true
  · rw [if_pos hd, delim_not_alnum hd, Bool.or_false]
    exact h.flush _ _ _
  rw [if_neg hd]
  by_cases hu : isUpper c = true
  · rw [if_pos hu]
    split
    · exact TokInv.push (cur := []) (tokFlush_inv h).1 (fun _ hx => (nomatch hx)) (upper_alnum hu) _ _ _ _
    · exact TokInv.push h.toks h.cur (upper_alnum hu) _ _ _ _
  rw [if_neg hu]
  by_cases hl : isLower c = true
  · rw [if_pos hl]
    split
    · -- an upper-case run ends: its last letter starts the new token, the rest is a token of its own
      refine TokInv.push (fun t ht => ?_) (fun x hx => ?_) (lower_alnum hl) _ _ _ _
      · dsimp only at ht
        split at ht
        · exact h.toks t ht
        · rename_i hne
          rcases List.mem_append.1 ht with ht | ht
          · exact h.toks t ht
          · rw [List.mem_singleton.1 ht]
            exact alnumWord_lower ⟨fun h0 => hne (by rw [h0]; rfl),
              fun x hx => h.cur x ((List.dropLast_sublist _).subset hx)⟩
      · dsimp only at hx
        split at hx
        · rename_i l hl'
          rw [List.mem_singleton.1 hx]
          exact h.cur _ (List.mem_of_getLast? hl')
        · cases hx
    · exact TokInv.push h.toks h.cur (lower_alnum hl) _ _ _ _
  rw [if_neg hl]
  by_cases hg : isDigit c = true
  · rw [if_pos hg]
    exact TokInv.push h.toks h.cur (by simp [isAlnum, hg]) _ _ _ _
  · rw [if_neg hg, show isAlnum c = false by simp [isAlnum, isAlpha, hu, hl, hg], Bool.or_false]
    exact h.flush _ _ _

theorem foldl_tokStep_inv (s : Bytes) : ∀ {seen : Bool} {st : TokSt}, TokInv seen st →
    TokInv (seen || s.any isAlnum) (s.foldl tokStep st) := by
  induction s with
  | nil => intro seen st h; simpa using h
  | cons c s ih => intro seen st h; simpa [Bool.or_assoc] using ih (tokStep_inv h c)

theorem tokenize_words (s : Bytes) :
    (∀ t ∈ tokenize s, AlnumWord t) ∧ (s.any isAlnum = true → tokenize s ≠ []) := by
  have h := tokFlush_inv (foldl_tokStep_inv s (seen := false) (st := {})
    ⟨fun _ ht => (nomatch ht), fun _ hc => (nomatch hc), nofun⟩)
  rw [Bool.false_or] at h
  exact h

def Words (ws : List Bytes) : Prop := ws ≠ [] ∧ ∀ w ∈ ws, AlnumWord w

theorem Words.map {f : Bytes → Bytes} (hf : ∀ {t}, AlnumWord t → AlnumWord (f t)) {ws : List Bytes} (h : Words ws) :
    Words (ws.map f) :=
  ⟨fun h0 => h.1 (List.map_eq_nil_iff.1 h0), fun _ hw => by
    obtain ⟨x, hx, rfl⟩ := List.mem_map.1 hw
    exact hf (h.2 x hx)⟩

theorem Words.cons {w : Bytes} {ws : List Bytes} (hw : AlnumWord w) (h : ∀ x ∈ ws, AlnumWord x) : Words (w :: ws) :=
  ⟨List.cons_ne_nil _ _, fun x hx => (List.mem_cons.1 hx).elim (fun e => e ▸ hw) (h x)⟩

theorem concat_eq_joinWith : ∀ ws : List Bytes, concat ws = joinWith [] ws
  | [] => rfl
  | [w] => List.append_nil w
  | w :: w' :: ws => by
    show w ++ concat (w' :: ws) = w ++ [] ++ joinWith [] (w' :: ws)
    rw [List.append_nil, concat_eq_joinWith (w' :: ws)]

theorem joinWith_usable {sep : Bytes} (hsep : (47 : UInt8) ∉ sep) : ∀ {ws : List Bytes}, Words ws →
    (47 : UInt8) ∉ joinWith sep ws ∧ (joinWith sep ws).any isAlnum = true
  | [], h => absurd rfl h.1
  | [w], h => (h.2 w List.mem_cons_self).usable
  | w :: w' :: ws, h => by
    have hw := (h.2 w List.mem_cons_self).usable
    have ih := joinWith_usable hsep (ws := w' :: ws)
      ⟨List.cons_ne_nil _ _, fun x hx => h.2 x (List.mem_cons_of_mem _ hx)⟩
    simp only [joinWith, List.mem_append, List.any_append, hw.2, Bool.true_or, not_or]
    exact ⟨⟨⟨hw.1, hsep⟩, ih.1⟩, trivial⟩

theorem renderTokens_usable {ts : List Bytes} (h : Words ts) (st : CStyle) :
    (47 : UInt8) ∉ renderTokens ts st ∧ (renderTokens ts st).any isAlnum = true := by
  have hU := h.map alnumWord_upper
  have hC := h.map alnumWord_capitalize
  obtain ⟨t, rest, rfl⟩ := List.exists_cons_of_ne_nil h.1
  cases st <;> simp only [renderTokens, concat_eq_joinWith]
  case snake => exact joinWith_usable (by simp) h
  case kebab => exact joinWith_usable (by simp) h
  case camel =>
    have : t ++ joinWith [] (rest.map capitalize) = joinWith [] (t :: rest.map capitalize) := by
      rw [← concat_eq_joinWith, ← concat_eq_joinWith]; rfl
    rw [this]
    exact joinWith_usable (by simp) (Words.cons (h.2 t List.mem_cons_self) (List.forall_mem_cons.1 hC.2).2)
  case pascal => exact joinWith_usable (by simp) hC
  case screamingSnake => exact joinWith_usable (by simp) hU
  case title => exact joinWith_usable (by simp) hC
  case train => exact joinWith_usable (by simp) hC
  case screamingTrain => exact joinWith_usable (by simp) hU
  case dot => exact joinWith_usable (by simp) h
  case lowerFlat => exact joinWith_usable (by simp) h
  case upperFlat => exact joinWith_usable (by simp) hU
  case sentence =>
    exact joinWith_usable (by simp)
      (Words.cons (alnumWord_capitalize (h.2 t List.mem_cons_self)) fun x hx => h.2 x (List.mem_cons_of_mem _ hx))
  case lowerSentence => exact joinWith_usable (by simp) h
  case upperSentence => exact joinWith_usable (by simp) hU
  case mixed => exact joinWith_usable (by simp) h

theorem replaceCI_usable {s p r : Bytes} (hp : p ≠ []) (hs : (47 : UInt8) ∉ s)
    (hr : (47 : UInt8) ∉ r ∧ r.any isAlnum = true) (hc : containsSub (lower s) (lower p) = true) :
    (47 : UInt8) ∉ replaceCI s p r ∧ (replaceCI s p r).any isAlnum = true := by
  have hlp : lower p ≠ [] := fun h0 => hp (List.map_eq_nil_iff.1 h0)
  obtain ⟨k, hk, hpre⟩ := (containsSub_iff hlp).1 hc
  rw [lower, List.length_map] at hk
  rw [lower, lower, ← List.map_drop] at hpre
  rw [replaceCI, List.isEmpty_eq_false_iff.2 hp, if_neg Bool.false_ne_true, replaceCIGo_eq_scan]
  refine scan_usable _ hs (fun t r' n e => ?_) hk (by simp only [lower, hpre]; rfl)
  split at e
  · cases e; exact hr
  · cases e

theorem extractPrefix_split (s : Bytes) :
    s = (extractPrefix s).1 ++ (extractPrefix s).2 ∧ (47 : UInt8) ∉ (extractPrefix s).1 := by
  unfold extractPrefix
  split <;> exact ⟨rfl, by simp⟩

theorem ite_none_eq_some {α : Type} {c : Prop} [Decidable c] {x : Option α} {n : α}
    (h : (if c then none else x) = some n) : ¬ c ∧ x = some n := by
  split at h
  · cases h
  · exact ⟨‹_›, h⟩

theorem ite_eq_some_or {α : Type} {c : Prop} [Decidable c] {x y : Option α} {n : α}
    (h : (if c then x else y) = some n) : x = some n ∨ y = some n := by
  split at h
  · exact Or.inl h
  · exact Or.inr h

theorem applyCoercion_some {T : Tables} {name old new n : Bytes} (h : applyCoercion T name old new = some n) :
    containsSub (lower (extractPrefix name).2) (lower old) = true ∧
    ∃ st, n = (extractPrefix name).1 ++ replaceCI (extractPrefix name).2 old (renderTokens (tokenize new) st) := by
  unfold applyCoercion at h
  generalize extractPrefix name = pb at h ⊢
  obtain ⟨pfx, body⟩ := pb
  dsimp only at h
  obtain ⟨_, h⟩ := ite_none_eq_some h
  obtain ⟨hocc, h⟩ := ite_none_eq_some h
  refine ⟨by simpa using hocc, ?_⟩
  rcases ite_eq_some_or h with h | h
  · exact ⟨_, (Option.some.inj (ite_none_eq_some h).2).symm⟩
  · exact ⟨_, (Option.some.inj (ite_none_eq_some h).2).symm⟩

theorem applyCoercion_safe (T : Tables) {name old new n : Bytes} (hs : (47 : UInt8) ∉ name) (hold : old ≠ [])
    (hnew : new.any isAlnum = true) (h : applyCoercion T name old new = some n) : SafeName n := by
  obtain ⟨hocc, st, rfl⟩ := applyCoercion_some h
  obtain ⟨hsplit, hpfx⟩ := extractPrefix_split name
  have hbody : (47 : UInt8) ∉ (extractPrefix name).2 := fun h47 => hs (hsplit ▸ List.mem_append_right _ h47)
  have hwords := tokenize_words new
  have hrep := replaceCI_usable hold hbody (renderTokens_usable ⟨hwords.2 hnew, hwords.1⟩ st) hocc
  exact safeName_of_usable ⟨fun h47 => (List.mem_append.1 h47).elim hpfx hrep.1, by simp [hrep.2]⟩

end CoerceSafeL
