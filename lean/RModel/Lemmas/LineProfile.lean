import RModel.Lemmas.LineConstraints
/-
  C06, clause 1: the *profile* of a text (which separators, upper/lower-case letters, first letter, an upper-case letter
  after the first) decides, through the generated constraint table, which styles can be compatible with it.  Every rendering
  of a multi-word term is a list of rendered words (each lower-case, upper-case or capitalised) glued by the style's
  separator, so it has a fixed profile per style, and "how many styles are compatible with the rendering in style `st`"
  becomes a finite computation over the table.
-/
open B CaseModel

namespace LinePipeline

structure Profile where
  u : Bool        -- contains `_`
  h : Bool        -- contains `-`
  d : Bool        -- contains `.`
  s : Bool        -- contains a space
  up : Bool       -- some upper-case letter
  lo : Bool       -- some lower-case letter
  firstUp : Bool
  firstLo : Bool
  tailUp : Bool   -- some upper-case letter after the first byte
  deriving DecidableEq, Repr

def HasProfile (x : Bytes) (p : Profile) : Prop :=
  contains x 95 = p.u ∧ contains x 45 = p.h ∧ contains x 46 = p.d ∧ contains x 32 = p.s ∧
  x.any isUpper = p.up ∧ x.any isLower = p.lo ∧
  ∃ c cs, x = c :: cs ∧ isUpper c = p.firstUp ∧ isLower c = p.firstLo ∧ cs.any isUpper = p.tailUp

def Profile.has (p : Profile) (s : UInt8) : Bool :=
  if s == 95 then p.u else if s == 45 then p.h else if s == 46 then p.d else if s == 32 then p.s else false

/-- necessary condition for `check_separator_constraints` -/
def sepNec (p : Profile) (sep : Option UInt8) : Bool :=
  Gen.allSeparators.all (fun s => (sep == some s) || !p.has s)

/-- necessary condition for `check_case_constraint`; `wb` = the word bit of the text: it cannot be a sequence of
    capitalised words -/
def caseNec (p : Profile) (wb : Bool) : CaseConstraint → Bool
  | .allUppercase => !p.lo
  | .allLowercase => !p.up
  | .titlePattern => p.firstUp && !p.tailUp
  | .camelPattern => p.firstLo
  | .pascalPattern => p.firstUp
  | .titleWordsPattern => p.firstUp && !wb

def nec (p : Profile) (wb : Bool) (st : Style) : Bool :=
  caseNec p wb (Gen.styleConstraints st).1 && sepNec p (Gen.styleConstraints st).2

theorem checkSep_eq {x : Bytes} {p : Profile} (hp : HasProfile x p) (sep : Option UInt8) :
    checkSep x sep = sepNec p sep := by
  obtain ⟨h1, h2, h3, h4, _⟩ := hp
  simp [checkSep, sepNec, Gen.allSeparators, Profile.has, h1, h2, h3, h4]

theorem canMatch_nec {A : Acr} {x : Bytes} {p : Profile} {wb : Bool} (hp : HasProfile x p)
    (hw : wb = true → (splitOn x 32).all okWord = false) {st : Style} (h : canMatchStyle A x st = true) :
    nec p wb st = true := by
  simp only [canMatchStyle, Bool.and_eq_true] at h
  simp only [nec, Bool.and_eq_true, ← checkSep_eq hp, h.2, and_true]
  obtain ⟨_, _, _, _, h5, h6, c, cs, rfl, h7, h8, h9⟩ := hp
  generalize (Gen.styleConstraints st).1 = k at h
  cases k with
  | allUppercase => simpa [caseNec, ← h6, hasLower] using checkCase_allUpper h.1
  | allLowercase => simpa [caseNec, ← h5, hasUpper] using checkCase_allLower h.1
  | titlePattern => simp [caseNec, ← h7, ← h9, checkCase_title h.1]
  | camelPattern => simpa [caseNec, ← h8] using checkCase_camel h.1
  | pascalPattern => simpa [caseNec, ← h7] using (checkCase_pascal h.1).1
  | titleWordsPattern =>
    cases wb with
    | false => simpa [caseNec, ← h7] using checkCase_titleWords_head h.1
    | true => rw [(checkCase_titleWords h.1).1] at hw; exact absurd (hw rfl) (by decide)

theorem filterCompatible_length_le {A : Acr} {x : Bytes} {p : Profile} {wb : Bool} (hp : HasProfile x p)
    (hw : wb = true → (splitOn x 32).all okWord = false) (styles : List Style) :
    (filterCompatible A x styles).length ≤ (styles.filter (nec p wb)).length := by
  rw [filterCompatible, ← List.countP_eq_length_filter, ← List.countP_eq_length_filter]
  exact List.countP_mono_left fun _ _ h => canMatch_nec hp hw h

def profileOf : Style → Profile
  | .snake => ⟨true, false, false, false, false, true, false, true, false⟩
  | .kebab => ⟨false, true, false, false, false, true, false, true, false⟩
  | .dot => ⟨false, false, true, false, false, true, false, true, false⟩
  | .lowerSentence => ⟨false, false, false, true, false, true, false, true, false⟩
  | .screamingSnake => ⟨true, false, false, false, true, false, true, false, true⟩
  | .screamingTrain => ⟨false, true, false, false, true, false, true, false, true⟩
  | .upperSentence => ⟨false, false, false, true, true, false, true, false, true⟩
  | .title => ⟨false, false, false, true, true, true, true, false, true⟩
  | .train => ⟨false, true, false, false, true, true, true, false, true⟩
  | .pascal => ⟨false, false, false, false, true, true, true, false, true⟩
  | .camel => ⟨false, false, false, false, true, true, false, true, true⟩
  | .sentence => ⟨false, false, false, true, true, true, true, false, false⟩
  | .lowerFlat => ⟨false, false, false, false, false, true, false, true, false⟩
  | .upperFlat => ⟨false, false, false, false, true, false, true, false, true⟩

theorem glue_tail (sep : Option UInt8) {p : UInt8 → Bool} (hp : ∀ d, sep = some d → p d = false) (a : UInt8) (t : Bytes)
    (rs : List Bytes) : ∃ g, glue sep ((a :: t) :: rs) = a :: (t ++ g) ∧ g.any p = rs.any (fun r => r.any p) := by
  cases sep with
  | none => exact ⟨concat rs, rfl, any_concat p rs⟩
  | some d =>
    cases rs with
    | nil => exact ⟨[], (List.append_nil _).symm, rfl⟩
    | cons b l =>
      refine ⟨[d] ++ joinWith [d] (b :: l), by rw [← List.append_assoc]; rfl, ?_⟩
      rw [List.any_append, any_joinWith_of_not_sep p (hp d rfl), List.any_cons, hp d rfl]; rfl

theorem profile_glue (A : Acr) (sep : Option UInt8) (hsep : ∀ d, sep = some d → isAlpha d = false) (c : Casing × Casing)
    {w v : Bytes} {l : List Bytes} (hw : Words (w :: v :: l)) :
    HasProfile (glue sep (cased A c (w :: v :: l)))
      ⟨sep == some 95, sep == some 45, sep == some 46, sep == some 32,
        c.1.firstUp || c.1.tailUp || (c.2.firstUp || c.2.tailUp), c.1.hasLo || c.2.hasLo, c.1.firstUp, !c.1.firstUp,
        c.1.tailUp || (c.2.firstUp || c.2.tailUp)⟩ := by
  obtain ⟨hal, hu, hl⟩ := cased_flags A c hw
  obtain ⟨f1, f2, f3, f4, f5, f6⟩ := glue_flags sep hsep (Nat.le_add_left 2 _) hal hu hl
  obtain ⟨a, t, he, -, hfu, hfl, htu, -⟩ := fn_spec A c.1 (hw w (List.mem_cons_self ..))
  have hrest : ((v :: l).map (c.2.fn A)).any (fun r => r.any isUpper) = (c.2.firstUp || c.2.tailUp) :=
    List.any_const (List.cons_ne_nil _ _) fun r hr => by
      obtain ⟨u, hu, rfl⟩ := List.mem_map.mp hr
      obtain ⟨a', t', he', -, hfu', -, htu', -⟩ := fn_spec A c.2 (hw u (List.mem_cons_of_mem _ hu))
      rw [he', List.any_cons, hfu', htu']
  obtain ⟨g, hg, hgu⟩ := glue_tail sep (p := isUpper) (fun d hd => by have := hsep d hd; cc) a t ((v :: l).map (c.2.fn A))
  rw [cased, he] at f1 f2 f3 f4 f5 f6 ⊢
  exact ⟨f1, f2, f3, f4, f5, f6, a, t ++ g, hg, hfu, hfl, by rw [List.any_append, htu, hgu, hrest]⟩

theorem render_profile (A : Acr) {ws : List Bytes} (h2 : 2 ≤ ws.length) (hw : Words ws) (st : Style) :
    HasProfile (toStyle A ws st) (profileOf st) := by
  match ws, h2 with
  | w :: v :: l, _ =>
    rw [toStyle_eq]
    have := profile_glue A st.sep (fun _ => sep_not_alpha st) st.casing hw
    cases st <;> exact this

/-- does the rendering of a multi-word term fail the per-word test of `TitleWordsPattern` (a lower bound: set only if it
    does) -/
def styleWordBad : Style → Bool
  | .title => false
  | .sentence | .lowerSentence | .upperSentence => true
  | st => (profileOf st).tailUp

theorem wordBad_no_space {x : Bytes} {p : Profile} (hp : HasProfile x p) (hs : p.s = false) (ht : p.tailUp = true) :
    (splitOn x 32).all okWord = false := by
  obtain ⟨_, _, _, h4, _, _, c, cs, rfl, _, _, h9⟩ := hp
  have hsp : ∀ r ∈ [c :: cs], ∀ y ∈ r, (y == 32) = false := fun r hr y hy =>
    Bool.eq_false_iff.mpr (List.any_eq_false.mp (h4.trans hs) y (List.mem_singleton.mp hr ▸ hy))
  have := splitOn_joinWith 32 [c :: cs] (List.cons_ne_nil _ _) hsp
  rw [joinWith] at this
  rw [this, List.all_cons, List.all_nil, Bool.and_true]
  cases hok : okWord (c :: cs) with
  | false => rfl
  | true => rw [(okWord_cons hok).2] at h9; exact absurd (h9.trans ht) (by decide)

theorem okWord_fn {A : Acr} {k : Casing} {w : Bytes} (hw : Word w) (h : okWord (k.fn A w) = true) :
    k.firstUp = true ∧ k.tailUp = false := by
  obtain ⟨c, t, hr, -, hfu, -, htu, -⟩ := fn_spec A k hw
  rw [hr] at h
  exact ⟨hfu ▸ (okWord_cons h).1, htu ▸ (okWord_cons h).2⟩

theorem render_wordBad (A : Acr) {ws : List Bytes} (h2 : 2 ≤ ws.length) (hw : Words ws) {st : Style}
    (hb : styleWordBad st = true) : (splitOn (toStyle A ws st) 32).all okWord = false := by
  by_cases hs : (profileOf st).s = false
  · have ht : (profileOf st).tailUp = true := by cases st <;> first | exact hb | exact absurd hs (by decide)
    exact wordBad_no_space (render_profile A h2 hw st) hs ht
  · match ws, h2 with
    | w :: v :: l, _ =>
      -- the pieces of `split(' ')` are the cased words, and the first or the second of them is not capitalised
      have hsep : st.sep = some 32 := by cases st <;> first | rfl | exact absurd rfl hs
      rw [toStyle_eq, hsep, glue,
        splitOn_joinWith 32 (cased A st.casing (w :: v :: l)) (List.cons_ne_nil _ _) (alpha_ne_sep (by decide) (cased_flags A st.casing hw).1)]
      cases hall : (cased A st.casing (w :: v :: l)).all okWord with
      | false => rfl
      | true =>
        simp only [cased, List.map_cons, List.all_cons, Bool.and_eq_true] at hall
        have h1 := okWord_fn (hw w (List.mem_cons_self ..)) hall.1
        have h2 := okWord_fn (hw v (List.mem_cons_of_mem _ (List.mem_cons_self ..))) hall.2.1
        cases st with
        | sentence => exact absurd h2.1 (by decide)
        | lowerSentence => exact absurd h1.1 (by decide)
        | upperSentence => exact absurd h1.2 (by decide)
        | title => exact absurd hb (by decide)
        | _ => exact absurd hsep (by decide)

end LinePipeline
