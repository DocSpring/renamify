import RModel.Model.Matcher
import RModel.Model.Hunks
import RModel.Lemmas.ListFacts
/- line numbers, line starts and `lines_with_terminator` -/
namespace Matcher

def isNl (b : UInt8) : Bool := b.toNat == 10
def nlCount (s : Bytes) : Nat := (s.filter (fun b => b.toNat == 10)).length

theorem lineNo_eq (c : Bytes) (p : Nat) : lineNo c p = nlCount (c.take p) + 1 := rfl

theorem nlCount_append (a b : Bytes) : nlCount (a ++ b) = nlCount a + nlCount b := by
  simp [nlCount, List.filter_append]

theorem nlCount_eq_zero {y : Bytes} : nlCount y = 0 ↔ ∀ b ∈ y, (b.toNat != 10) = true := by
  simp [nlCount, List.filter_eq_nil_iff, bne]

theorem nlCount_cons_of_ne {c : UInt8} (hc : ¬ (c.toNat == 10) = true) (t : Bytes) : nlCount (c :: t) = nlCount t :=
  congrArg List.length (List.filter_cons_of_neg hc)

theorem nlCount_take {y : Bytes} (h : nlCount y = 0) (p : Nat) : nlCount (y.take p) = 0 := by
  have := nlCount_append (y.take p) (y.drop p)
  rw [List.take_append_drop, h] at this
  omega

theorem trailingRun_le (s : Bytes) : trailingRun s ≤ s.length := by
  unfold trailingRun
  have := (List.takeWhile_sublist (fun b : UInt8 => b.toNat != 10) (l := s.reverse)).length_le
  simpa using this

theorem trailingRun_append_noNl (x : Bytes) {y : Bytes} (h : nlCount y = 0) :
    trailingRun (x ++ y) = trailingRun x + y.length := by
  unfold trailingRun
  rw [List.reverse_append, List.takeWhile_append,
    List.takeWhile_eq_self fun b hb => nlCount_eq_zero.mp h b (List.mem_reverse.mp hb), if_pos rfl,
    List.length_append, List.length_reverse, Nat.add_comm]

theorem trailingRun_after_nl (t x : Bytes) : trailingRun (t ++ [10] ++ x) = trailingRun x := by
  unfold trailingRun
  rw [List.reverse_append, List.takeWhile_append]
  split
  · next hall => simp [hall]
  · rfl

theorem lineStart_eq_zero {c : Bytes} {p : Nat} (h : nlCount (c.take p) = 0) : lineStart c p = 0 := by
  rw [lineStart, ← List.nil_append (c.take p), trailingRun_append_noNl [] h]
  exact Nat.sub_eq_zero_of_le (Nat.le_add_left _ _)

theorem lineStart_eq_of_lineNo_eq (c : Bytes) {p q : Nat} (hpq : p ≤ q) (h : lineNo c p = lineNo c q) :
    lineStart c p = lineStart c q := by
  have hsplit : c.take q = c.take p ++ (c.drop p).take (q - p) := by
    rw [← List.take_add, Nat.add_sub_cancel' hpq]
  have hcount : nlCount ((c.drop p).take (q - p)) = 0 := by
    rw [lineNo_eq, lineNo_eq, hsplit, nlCount_append] at h
    omega
  have := trailingRun_le (c.take p)
  rw [lineStart, lineStart, hsplit, trailingRun_append_noNl _ hcount, List.length_append]
  omega

theorem lineStart_le (c : Bytes) (p : Nat) : lineStart c p ≤ p := by
  unfold lineStart
  simp only [List.length_take]
  omega

theorem nlCount_tail_run (x : Bytes) : nlCount (x.drop (x.length - trailingRun x)) = 0 := by
  refine nlCount_eq_zero.mpr fun b hb => ?_
  have h : x.reverse.takeWhile (fun b => b.toNat != 10) = (x.drop (x.length - trailingRun x)).reverse := by
    rw [← List.take_reverse]
    exact List.prefix_iff_eq_take.mp (List.takeWhile_prefix _)
  exact List.mem_takeWhile_imp (p := fun b : UInt8 => b.toNat != 10) (h ▸ List.mem_reverse.mpr hb)

end Matcher

namespace Hunks
open Matcher

theorem drop_decomp (c : Bytes) {off a b : Nat} (h1 : off ≤ a) (h2 : a ≤ b) :
    c.drop off = (c.drop off).take (a - off) ++ ((c.take b).drop a ++ c.drop b) := by
  have e1 : c.drop b = (c.drop a).drop (b - a) := by rw [List.drop_drop, Nat.add_sub_cancel' h2]
  have e2 : c.drop a = (c.drop off).drop (a - off) := by rw [List.drop_drop, Nat.add_sub_cancel' h1]
  rw [List.drop_take, e1, List.take_append_drop, e2, List.take_append_drop]

def takeLine : Bytes → Bytes
  | [] => []
  | c :: cs => if c.toNat == 10 then [c] else c :: takeLine cs

theorem takeLine_pos {s : Bytes} (h : s ≠ []) : 0 < (takeLine s).length := by
  cases s with
  | nil => exact absurd rfl h
  | cons c cs => simp only [takeLine]; split <;> simp

theorem takeLine_decomp (s : Bytes) : ∃ t rest, s = t ++ rest ∧ nlCount t = 0 ∧
    (rest = [] ∧ takeLine s = t ∨ ∃ s', rest = 10 :: s' ∧ takeLine s = t ++ [10]) := by
  induction s with
  | nil => exact ⟨[], [], rfl, rfl, Or.inl ⟨rfl, rfl⟩⟩
  | cons c cs ih =>
    rw [takeLine]
    split
    · next hc =>
      obtain rfl : c = 10 := UInt8.toNat_inj.mp (eq_of_beq hc)
      exact ⟨[], 10 :: cs, rfl, rfl, Or.inr ⟨cs, rfl, rfl⟩⟩
    · next hc =>
      obtain ⟨t, rest, rfl, ht, h⟩ := ih
      exact ⟨c :: t, rest, rfl, nlCount_cons_of_ne hc t ▸ ht,
        h.imp (fun h => ⟨h.1, congrArg _ h.2⟩) fun ⟨s', h1, h2⟩ => ⟨s', h1, congrArg _ h2⟩⟩

theorem linesWT_eq (s : Bytes) (h : s ≠ []) :
    linesWT s = takeLine s :: linesWT (s.drop (takeLine s).length) := by
  induction s with
  | nil => exact absurd rfl h
  | cons c cs ih =>
    simp only [linesWT, takeLine]
    split
    · simp
    · cases cs with
      | nil => simp [linesWT, takeLine]
      | cons d ds =>
        rw [ih (by simp)]
        simp

theorem takeLine_append_noNl {a : Bytes} (b : Bytes) (h : nlCount a = 0) :
    takeLine (a ++ b) = a ++ takeLine b := by
  induction a with
  | nil => rfl
  | cons x xs ih =>
    have hx : ¬ (x.toNat == 10) = true := by simpa [bne] using nlCount_eq_zero.mp h x List.mem_cons_self
    rw [List.cons_append, takeLine, if_neg hx, ih (nlCount_cons_of_ne hx xs ▸ h)]
    rfl

theorem lineStart_after_nl (t s : Bytes) (q : Nat) :
    lineStart (t ++ [10] ++ s) ((t ++ [10]).length + q) = (t ++ [10]).length + lineStart s q := by
  have := trailingRun_le (s.take q)
  rw [lineStart, lineStart, List.take_length_add_append, trailingRun_after_nl, List.length_append]
  omega

/-- the line that contains position `p` is the `lineNo`-th element of `lines_with_terminator`, and it
    starts at `lineStart` -/
theorem lineOf_at (s : Bytes) (p : Nat) (hp : p < s.length) :
    (linesWT s)[nlCount (s.take p)]? = some (takeLine (s.drop (lineStart s p))) := by
  induction hn : s.length using Nat.strongRecOn generalizing s p with | _ n ih => ?_
  have hne : s ≠ [] := fun h => by rw [h] at hp; exact absurd hp (Nat.not_lt_zero _)
  rw [linesWT_eq s hne]
  obtain ⟨t, rest, rfl, ht, hline⟩ := takeLine_decomp s
  rcases Nat.lt_or_ge p (t.length + 1) with hle | hgt
  · -- `p` lies in the first line
    have h0 : nlCount ((t ++ rest).take p) = 0 := by
      rw [List.take_append_of_le_length (Nat.le_of_lt_succ hle)]
      exact nlCount_take ht p
    rw [h0, lineStart_eq_zero h0]
    rfl
  · obtain ⟨rfl, _⟩ | ⟨s', rfl, hline⟩ := hline
    · rw [List.append_nil] at hp; omega
    · -- `p` lies `q` bytes behind the first line `t ++ [10]`
      have hL : (t ++ [10]).length = t.length + 1 := List.length_append
      rw [List.length_append, List.length_cons] at hp hn
      obtain ⟨q, rfl⟩ : ∃ q, p = (t ++ [10]).length + q := ⟨p - (t.length + 1), by omega⟩
      rw [hline, List.append_cons t 10 s', List.take_length_add_append, nlCount_append, nlCount_append, ht,
        lineStart_after_nl, List.drop_length_add_append, List.drop_left, show nlCount [10] = 1 from rfl, Nat.zero_add,
        Nat.add_comm 1, List.getElem?_cons_succ]
      exact ih _ (by omega) s' q (by omega) rfl

end Hunks
