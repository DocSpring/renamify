import RModel.Model.Scan
import RModel.Lemmas.SortPerm
/-
  Lemmas for C14 (`Props/C14.lean`).  Part A: under a total order on files `hunkLe` is the lexicographic order on
  (file, line, byte_offset).  Part B: frame lemmas for effect programs, and the one structural fact about
  `programGP`: whatever the gate table, a program is a sublist of the blocks it is assembled from.
-/

namespace Scan
open SortPerm

theorem FileOrder.refl {F : Type} {fle : F → F → Bool} (ord : FileOrder fle) (a : F) : fle a a = true :=
  (ord.total a a).elim id id

variable {F : Type} [DecidableEq F]

theorem hunkLe_iff {fle : F → F → Bool} (ord : FileOrder fle) (a b : Hunk F) :
    hunkLe fle a b = true ↔
      fle a.file b.file = true ∧
        (a.file = b.file → a.line < b.line ∨ (a.line = b.line ∧ a.byteOffset ≤ b.byteOffset)) := by
  unfold hunkLe
  by_cases hf : a.file = b.file
  · simp only [hf, if_true, ord.refl, true_and, forall_const]
    split <;> simp only [decide_eq_true_eq] <;> omega
  · simp only [hf, if_false, false_imp_iff, and_true]

theorem hunkLe_preorder {fle : F → F → Bool} (ord : FileOrder fle) : TotalPreorder (hunkLe fle) where
  total a b := by
    rw [hunkLe_iff ord, hunkLe_iff ord]
    by_cases hf : a.file = b.file
    · simp only [hf, ord.refl, true_and, forall_const]
      omega
    · exact (ord.total _ _).imp (fun h => ⟨h, fun e => absurd e hf⟩) (fun h => ⟨h, fun e => absurd e.symm hf⟩)
  trans a b c hab hbc := by
    rw [hunkLe_iff ord] at hab hbc ⊢
    refine ⟨ord.trans _ _ _ hab.1 hbc.1, fun hac => ?_⟩
    have hba : b.file = a.file := ord.antisymm _ _ (hac ▸ hbc.1) hab.1
    have h1 := hab.2 hba.symm
    have h2 := hbc.2 (hba.trans hac)
    omega

theorem hunkLe_antisymm_key {fle : F → F → Bool} (ord : FileOrder fle) (a b : Hunk F)
    (hab : hunkLe fle a b = true) (hba : hunkLe fle b a = true) :
    a.file = b.file ∧ a.line = b.line ∧ a.byteOffset = b.byteOffset := by
  rw [hunkLe_iff ord] at hab hba
  have hf := ord.antisymm _ _ hab.1 hba.1
  have h1 := hab.2 hf
  have h2 := hba.2 hf.symm
  exact ⟨hf, by omega, by omega⟩

/-- `renLe` compares by (directory first, depth descending) resp. path: total and transitive, not antisymmetric -/
theorem renLe_preorder : TotalPreorder renLe where
  total a b := by
    obtain ⟨ad, _, _⟩ := a
    obtain ⟨bd, _, _⟩ := b
    cases ad <;> cases bd <;> simp only [renLe, decide_eq_true_eq, or_true, true_or] <;> omega
  trans a b c hab hbc := by
    obtain ⟨ad, _, _⟩ := a
    obtain ⟨bd, _, _⟩ := b
    obtain ⟨cd, _, _⟩ := c
    cases ad <;> cases bd <;> cases cd <;> simp only [renLe, decide_eq_true_eq, Bool.false_eq_true] at hab hbc ⊢ <;> omega

theorem dedupAux_sublist {α κ : Type} [DecidableEq κ] (key : α → κ) (seen : List κ) (l : List α) :
    (dedupAux key seen l).Sublist l := by
  induction l generalizing seen with
  | nil => exact .refl _
  | cons x xs ih =>
    unfold dedupAux
    split
    · exact .cons _ (ih seen)
    · exact .cons_cons _ (ih _)

def probeBlock : List FsOp :=
  [.mkdir .probeDir, .openw .probeFile, .write .probeFile, .unlink .probeFile, .rmdir .probeDir]

def ignoreBlock : List FsOp := [.openw .ignoreTmp, .write .ignoreTmp, .rename .ignoreTmp .ignoreFile]

theorem probeBlock_writes : ∀ op ∈ probeBlock, ∀ p ∈ written op, p ∈ [P.probeDir, .probeFile] := by decide

theorem ignoreBlock_writes : ∀ op ∈ ignoreBlock, ∀ p ∈ written op, p ∈ [P.ignoreTmp, .ignoreFile] := by decide

theorem exec_append (t : T) (a b : List FsOp) : exec t (a ++ b) = exec (exec t a) b :=
  List.foldl_append

theorem upd_of_ne {p q : P} (t : T) (v : Option Node) (h : q ≠ p) : upd t p v q = t q :=
  if_neg h

/-- every branch of `applyOp` returns `t` itself or `t` updated at written paths -/
theorem applyOp_frame (t : T) (op : FsOp) (q : P) (hq : q ∉ written op) : applyOp t op q = t q := by
  cases op <;> simp only [written, List.mem_cons, List.not_mem_nil, or_false, not_or] at hq <;> simp only [applyOp]
  case mkdir | link =>
    split
    · exact upd_of_ne t _ hq
    · rfl
  case write p =>
    cases t p with
    | none => rfl
    | some nd => cases nd with
      | file n => exact upd_of_ne t _ hq
      | dir => rfl
  case rename => rw [upd_of_ne _ _ hq.1, upd_of_ne _ _ hq.2]
  all_goals exact upd_of_ne t _ hq

theorem exec_frame (prog : List FsOp) (t : T) (q : P) (hq : ∀ op ∈ prog, q ∉ written op) : exec t prog q = t q := by
  induction prog generalizing t with
  | nil => rfl
  | cons op r ih =>
    rw [exec, List.foldl_cons, ← exec, ih _ fun o ho => hq o (List.mem_cons_of_mem _ ho)]
    exact applyOp_frame t op q (hq op List.mem_cons_self)

theorem exec_probeBlock (t : T) (h1 : t .probeDir = none) (h2 : t .probeFile = none) : exec t probeBlock = t := by
  funext q
  simp only [exec, probeBlock, List.foldl_cons, List.foldl_nil, applyOp, h1, if_true]
  by_cases hd : q = .probeDir
  · subst hd; simp [upd, h1]
  · by_cases hf : q = .probeFile
    · subst hf; simp [upd, h2]
    · simp [upd, hd, hf]

theorem exec_ignoreBlock_frame (t : T) (h : t .ignoreTmp = none) (q : P) (hq : q ≠ .ignoreFile) :
    exec t ignoreBlock q = t q := by
  by_cases hq2 : q = .ignoreTmp
  · subst hq2
    simp [exec, ignoreBlock, applyOp, upd, h]
  · refine exec_frame _ t q fun op hop hw => ?_
    have := ignoreBlock_writes op hop q hw
    simp [hq, hq2] at this

/-- everything the commands do outside the ignore file, whatever the gate table lets through -/
def systemOps (pub : Gen.DryRunGates.LockPublish) : List FsOp :=
  [.mkdir .renamifyDir] ++ lockSteps pub ++ probeBlock ++ [.openw .planFile, .write .planFile] ++ [.unlink .lock]

theorem ite_nil_sublist {α} {p : Prop} [Decidable p] (l : List α) : (if p then l else []).Sublist l := by
  split
  · exact .refl l
  · exact l.nil_sublist

theorem nil_ite_sublist {α} {p : Prop} [Decidable p] (l : List α) : (if p then [] else l).Sublist l := by
  split
  · exact l.nil_sublist
  · exact .refl l

theorem programGP_sublist (gs pub c) :
    (programGP gs pub c).Sublist ((if c.autoInit then ignoreBlock else []) ++ systemOps pub) := by
  simp only [programGP, systemOps, List.append_assoc]
  exact (List.Sublist.refl _).append <|
    ((ite_nil_sublist _).trans ((nil_ite_sublist _).append (.refl _))).append <|
    (ite_nil_sublist _).append <| (ite_nil_sublist _).append (ite_nil_sublist _)

theorem systemOps_writes (pub : Gen.DryRunGates.LockPublish) : ∀ op ∈ systemOps pub, ∀ p ∈ written op,
    p ∈ [P.probeDir, .probeFile] ∨ p ∈ [P.renamifyDir, .lock, .lockTmp, .planFile] := by
  cases pub <;> decide

/-- What a program can write, whatever the gate table and however the lock is published (`permitted` is built from the
    same three groups). -/
theorem programGP_writes (gs : List Gen.DryRunGates.Gate) (pub : Gen.DryRunGates.LockPublish) (c : Cfg) :
    ∀ op ∈ programGP gs pub c, ∀ p ∈ written op,
      p ∈ [P.probeDir, .probeFile] ∨ (c.autoInit = true ∧ p ∈ [P.ignoreTmp, .ignoreFile]) ∨
        p ∈ [P.renamifyDir, .lock, .lockTmp, .planFile] := by
  intro op hop p hp
  rcases List.mem_append.mp ((programGP_sublist gs pub c).subset hop) with h | h
  · obtain ⟨hai, h⟩ := List.mem_ite_nil_right.mp h
    exact .inr (.inl ⟨hai, ignoreBlock_writes op h p hp⟩)
  · exact (systemOps_writes pub op h p hp).imp_right .inr

end Scan
