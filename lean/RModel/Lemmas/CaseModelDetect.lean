import RModel.Lemmas.CaseModelWords
/-
  `detect_style` on rendered multi-word names (which of `_ - . space upper lower` occur in a rendering, `str::split`
  undoing `join`); and `Ends`: a joined list of letter words starts and ends with a letter.
-/
open B

namespace CaseModel

theorem any_any_false {p : UInt8 → Bool} {rs : List Bytes} (h : ∀ r ∈ rs, ∀ x ∈ r, p x = false) :
    rs.any (fun r => r.any p) = false := by
  simp only [List.any_eq_false, Bool.not_eq_true]
  exact h

theorem any_joinWith_of_not_sep (p : UInt8 → Bool) {d : UInt8} (hd : p d = false) : ∀ (rs : List Bytes),
    (joinWith [d] rs).any p = rs.any (fun r => r.any p)
  | [] => rfl
  | [r] => by simp only [joinWith, List.any_cons, List.any_nil, Bool.or_false]
  | a :: b :: l => by
    rw [joinWith_cons_cons, List.any_append, List.any_append, any_joinWith_of_not_sep p hd (b :: l)]
    simp only [List.any_cons, List.any_nil, hd, Bool.or_false]

theorem any_joinWith_of_sep (p : UInt8 → Bool) {d : UInt8} (hd : p d = true) {rs : List Bytes}
    (h2 : 2 ≤ rs.length) : (joinWith [d] rs).any p = true := by
  match rs, h2 with
  | a :: b :: l, _ =>
    rw [joinWith_cons_cons, List.any_append, List.any_append]
    simp only [List.any_cons, hd, Bool.true_or, Bool.or_true]

theorem any_concat (p : UInt8 → Bool) : ∀ (rs : List Bytes), (concat rs).any p = rs.any (fun r => r.any p)
  | [] => rfl
  | r :: rs => by rw [concat_cons, List.any_append, any_concat p rs, List.any_cons]

def AlphaWords (rs : List Bytes) : Prop := ∀ r ∈ rs, ∀ x ∈ r, isAlpha x = true

theorem alpha_ne_sep {c : UInt8} (hc : isAlpha c = false) {rs : List Bytes} (h : AlphaWords rs) :
    ∀ r ∈ rs, ∀ x ∈ r, (x == c) = false := by
  intro r hr x hx
  refine Bool.eq_false_iff.mpr fun hxc => ?_
  rw [← beq_iff_eq.mp hxc, h r hr x hx] at hc
  cases hc

theorem contains_words_false {c : UInt8} (hc : isAlpha c = false) {rs : List Bytes} (h : AlphaWords rs) :
    rs.any (fun r => r.any (· == c)) = false :=
  any_any_false (alpha_ne_sep hc h)

theorem contains_joinWith {c d : UInt8} (hc : isAlpha c = false) {rs : List Bytes} (h2 : 2 ≤ rs.length)
    (h : AlphaWords rs) : contains (joinWith [d] rs) c = (d == c) := by
  cases hdc : d == c with
  | true => exact any_joinWith_of_sep (· == c) hdc h2
  | false =>
    show (joinWith [d] rs).any (· == c) = false
    rw [any_joinWith_of_not_sep (· == c) hdc, contains_words_false hc h]

theorem contains_concat {c : UInt8} (hc : isAlpha c = false) {rs : List Bytes} (h : AlphaWords rs) :
    contains (concat rs) c = false := by
  show (concat rs).any (· == c) = false
  rw [any_concat, contains_words_false hc h]

theorem head?_joinWith {sep : Bytes} {r : Bytes} (rs : List Bytes) (hr : r ≠ []) :
    (joinWith sep (r :: rs)).head? = r.head? := by
  obtain ⟨c, r', rfl⟩ := List.exists_cons_of_ne_nil hr
  cases rs with
  | nil => rfl
  | cons b l => rfl

theorem splitOn_go_append (d : UInt8) : ∀ (r t cur : Bytes), (∀ x ∈ r, (x == d) = false) →
    splitOn.go d (r ++ t) cur = splitOn.go d t (r.reverse ++ cur)
  | [], _, _, _ => rfl
  | c :: r, t, cur, h => by
    have hc : (c == d) = false := h c (List.mem_cons_self ..)
    rw [List.cons_append, splitOn.go]
    simp only [hc, Bool.false_eq_true, ↓reduceIte]
    rw [splitOn_go_append d r t (c :: cur) (fun x hx => h x (List.mem_cons_of_mem _ hx))]
    simp only [List.reverse_cons, List.append_assoc, List.singleton_append]

theorem splitOn_joinWith (d : UInt8) : ∀ (rs : List Bytes), rs ≠ [] → (∀ r ∈ rs, ∀ x ∈ r, (x == d) = false) →
    splitOn (joinWith [d] rs) d = rs
  | [], h, _ => absurd rfl h
  | [r], _, h => by
    have := splitOn_go_append d r [] [] (h r (List.mem_singleton.mpr rfl))
    simp only [List.append_nil] at this
    simp only [splitOn, joinWith, this, splitOn.go, List.reverse_reverse]
  | a :: b :: l, _, h => by
    have ih := splitOn_joinWith d (b :: l) (by simp) (fun r hr => h r (List.mem_cons_of_mem _ hr))
    simp only [splitOn] at ih ⊢
    rw [joinWith_cons_cons, List.append_assoc, splitOn_go_append d a _ [] (h a (List.mem_cons_self ..))]
    simp only [List.singleton_append, List.append_nil, splitOn.go, beq_self_eq_true, ↓reduceIte,
      List.reverse_reverse, ih]

theorem isTitleWord_cap {r : Bytes} (h : IsCap r) : isTitleWord r = true := by
  obtain ⟨u, l0, l', rfl, hu, hl⟩ := h
  simp only [isTitleWord, hu, Bool.true_and, List.all_eq_true]
  exact hl

theorem isTitleWord_lower {w : Bytes} (h : ∀ c ∈ w, isLower c = true) : isTitleWord w = false := by
  cases w with
  | nil => rfl
  | cons c cs => simp only [isTitleWord, lower_not_upper (h c (List.mem_cons_self ..)), Bool.false_and]

end CaseModel

namespace LinePipeline
open CaseModel

/-- `x` starts and ends with an ASCII letter: between neutral delimiters the boundary test and the identifier extractor see
    exactly `x` -/
def Ends (x : Bytes) : Prop :=
  (∃ c cs, x = c :: cs ∧ isAlpha c = true) ∧ ∃ z, x.getLast? = some z ∧ isAlpha z = true

theorem Ends.ne_nil {x : Bytes} (h : Ends x) : x ≠ [] := by
  obtain ⟨⟨c, cs, rfl, _⟩, _⟩ := h
  exact List.cons_ne_nil c cs

theorem ends_of_alpha {r : Bytes} (hr : r ≠ []) (ha : ∀ x ∈ r, isAlpha x = true) : Ends r := by
  obtain ⟨c, cs, rfl⟩ := List.exists_cons_of_ne_nil hr
  exact ⟨⟨c, cs, rfl, ha c (List.mem_cons_self ..)⟩, _, List.getLast?_eq_some_getLast hr, ha _ (List.getLast_mem hr)⟩

theorem ends_append {a b : Bytes} (m : Bytes) (ha : Ends a) (hb : Ends b) : Ends (a ++ m ++ b) := by
  obtain ⟨⟨c, cs, rfl, hc⟩, _⟩ := ha
  obtain ⟨_, z, hz, hza⟩ := hb
  exact ⟨⟨c, cs ++ m ++ b, rfl, hc⟩, z, by rw [List.getLast?_append, hz]; rfl, hza⟩

theorem ends_join (sep : Bytes) : ∀ {rs : List Bytes}, rs ≠ [] → (∀ r ∈ rs, Ends r) → Ends (joinWith sep rs)
  | [r], _, h => h r (List.mem_cons_self ..)
  | a :: b :: l, _, h =>
    ends_append sep (h a (List.mem_cons_self ..)) (ends_join sep (by simp) fun r hr => h r (List.mem_cons_of_mem _ hr))

theorem ends_concat : ∀ {rs : List Bytes}, rs ≠ [] → (∀ r ∈ rs, Ends r) → Ends (concat rs)
  | [r], _, h => by rw [concat_cons, concat, List.foldr_nil, List.append_nil]; exact h r (List.mem_cons_self ..)
  | a :: b :: l, _, h => by
    have := ends_append [] (h a (List.mem_cons_self ..))
      (ends_concat (rs := b :: l) (by simp) fun r hr => h r (List.mem_cons_of_mem _ hr))
    rwa [List.append_nil] at this

end LinePipeline
