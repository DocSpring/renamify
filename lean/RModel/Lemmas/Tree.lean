import RModel.Model.Fs
/- Facts about the tree model `Model/Fs.lean` on its own (prefixes and `subst`, `lookup`, `rename`).  In namespace
   `RenamePhase`, where their users are. -/
namespace RenamePhase
open Fs

theorem snoc_induction {α : Type _} {P : List α → Prop} (hnil : P [])
    (hsnoc : ∀ l a, P l → P (l ++ [a])) (l : List α) : P l := by
  rw [← List.reverse_reverse l]
  induction l.reverse with
  | nil => exact hnil
  | cons a m ih => rw [List.reverse_cons]; exact hsnoc _ _ ih

theorem eq_dropLast_snoc {α : Type _} (l : List α) (h : l ≠ []) : ∃ a, l = l.dropLast ++ [a] :=
  ⟨l.getLast h, (List.dropLast_concat_getLast h).symm⟩

theorem pre_iff_prefix {a q : Path} : pre a q = true ↔ a <+: q := List.isPrefixOf_iff_prefix

theorem pre_iff {a q : Path} : pre a q = true ↔ ∃ s, q = a ++ s :=
  pre_iff_prefix.trans ⟨fun ⟨s, h⟩ => ⟨s, h.symm⟩, fun ⟨s, h⟩ => ⟨s, h.symm⟩⟩

theorem pre_append (a s : Path) : pre a (a ++ s) = true := pre_iff.2 ⟨s, rfl⟩

theorem pre_refl (a : Path) : pre a a = true := pre_iff_prefix.2 (List.prefix_refl a)

theorem pre_trans {a b c : Path} (h1 : pre a b = true) (h2 : pre b c = true) : pre a c = true :=
  pre_iff_prefix.2 ((pre_iff_prefix.1 h1).trans (pre_iff_prefix.1 h2))

theorem pre_length {a q : Path} (h : pre a q = true) : a.length ≤ q.length := (pre_iff_prefix.1 h).length_le

theorem pre_snoc_self (p : Path) (x : Bytes) : pre (p ++ [x]) p = false :=
  Bool.eq_false_iff.2 fun h => Nat.not_succ_le_self _ (List.length_append ▸ pre_length h)

theorem pre_eq_of_length {a q : Path} (h : pre a q = true) (hl : q.length ≤ a.length) : a = q :=
  (pre_iff_prefix.1 h).eq_of_length_le hl

theorem pre_comparable {a b q : Path} (ha : pre a q = true) (hb : pre b q = true) :
    pre a b = true ∨ pre b a = true :=
  (List.prefix_or_prefix_of_prefix (pre_iff_prefix.1 ha) (pre_iff_prefix.1 hb)).imp
    pre_iff_prefix.2 pre_iff_prefix.2

theorem pre_dropLast {a q : Path} (h : pre a q = true) (hne : q ≠ a) : pre a q.dropLast = true := by
  obtain ⟨s, rfl⟩ := pre_iff.1 h
  have hs0 : s ≠ [] := by intro h0; apply hne; rw [h0]; simp
  rw [List.dropLast_append_of_ne_nil hs0]
  exact pre_append _ _

theorem subst_append (a b s : Path) : subst a b (a ++ s) = b ++ s := by
  rw [subst, if_pos (pre_append a s), List.drop_left]

theorem subst_same (a b : Path) : subst a b a = b := by
  rw [subst, if_pos (pre_refl a), List.drop_length, List.append_nil]

theorem subst_of_not_pre {a b q : Path} (h : pre a q = false) : subst a b q = q := by
  rw [subst, h]; rfl

theorem subst_self (a q : Path) : subst a a q = q := by
  cases h : pre a q with
  | false => exact subst_of_not_pre h
  | true =>
    obtain ⟨s, rfl⟩ := pre_iff.1 h
    exact subst_append a a s

theorem subst_length {a b q : Path} (h : a.length = b.length) : (subst a b q).length = q.length := by
  cases hp : pre a q with
  | false => rw [subst_of_not_pre hp]
  | true =>
    obtain ⟨s, rfl⟩ := pre_iff.1 hp
    rw [subst_append, List.length_append, List.length_append, h]

theorem lookup_cons (e : Path × Node) (t : Tree) (p : Path) :
    lookup (e :: t) p = if e.1 = p then some e.2 else lookup t p := by
  unfold lookup
  rw [List.find?_cons]
  by_cases h : e.1 = p
  · rw [if_pos h, beq_iff_eq.2 h]
  · rw [if_neg h, beq_false_of_ne h]

theorem lookup_append (t t' : Tree) (q : Path) : lookup (t ++ t') q = (lookup t q).or (lookup t' q) := by
  induction t with
  | nil => rfl
  | cons e t ih =>
    rw [List.cons_append, lookup_cons, lookup_cons, ih]
    by_cases h : e.1 = q
    · rw [if_pos h, if_pos h]; rfl
    · rw [if_neg h, if_neg h]

theorem lookup_snoc (t : Tree) (p q : Path) (n : Node) :
    lookup (t ++ [(p, n)]) q = (lookup t q).or (if p = q then some n else none) := by
  rw [lookup_append, lookup_cons]; rfl

theorem lookup_eq_none {t : Tree} {p : Path} : lookup t p = none ↔ ∀ e ∈ t, e.1 ≠ p := by
  induction t with
  | nil => exact ⟨fun _ _ h => (nomatch h), fun _ => rfl⟩
  | cons e t ih =>
    rw [lookup_cons, List.forall_mem_cons, ← ih]
    by_cases h : e.1 = p
    · rw [if_pos h]; exact ⟨fun h' => (nomatch h'), fun h' => absurd h h'.1⟩
    · rw [if_neg h]; exact ⟨fun h' => ⟨h, h'⟩, fun h' => h'.2⟩

theorem mem_of_lookup {t : Tree} {p : Path} {n : Node} (h : lookup t p = some n) : (p, n) ∈ t := by
  induction t with
  | nil => cases h
  | cons e t ih =>
    rw [lookup_cons] at h
    by_cases he : e.1 = p
    · rw [if_pos he] at h
      rw [← he, ← Option.some.inj h]
      exact List.mem_cons_self
    · rw [if_neg he] at h
      exact List.mem_cons_of_mem _ (ih h)

theorem mem_of_lookup_some {t : Tree} {p : Path} {n : Node} (h : lookup t p = some n) :
    ∃ e ∈ t, e.1 = p := ⟨_, mem_of_lookup h, rfl⟩

theorem lookup_some_of_mem (t : Tree) (p : Path) (h : ∃ e ∈ t, e.1 = p) : ∃ n, lookup t p = some n := by
  obtain ⟨e, he, hp⟩ := h
  exact Option.ne_none_iff_exists'.1 fun hn => lookup_eq_none.1 hn e he hp

theorem lookup_map_key (F : Path → Path) (t : Tree) (p q : Path) (h : ∀ e ∈ t, F e.1 = q ↔ e.1 = p) :
    lookup (t.map (fun e => (F e.1, e.2))) q = lookup t p := by
  induction t with
  | nil => rfl
  | cons e t ih =>
    rw [List.forall_mem_cons] at h
    rw [List.map_cons, lookup_cons, lookup_cons, ih h.2]
    by_cases hk : e.1 = p
    · rw [if_pos (h.1.2 hk), if_pos hk]
    · rw [if_neg (mt h.1.1 hk), if_neg hk]

theorem lookup_map_inj (F : Path → Path) (t : Tree) (p : Path)
    (hinj : ∀ e ∈ t, F e.1 = F p → e.1 = p) :
    lookup (t.map (fun e => (F e.1, e.2))) (F p) = lookup t p :=
  lookup_map_key F t p (F p) fun e he => ⟨hinj e he, congrArg F⟩

theorem lookup_map_none (F : Path → Path) (t : Tree) (b : Path) (h : ∀ e ∈ t, F e.1 ≠ b) :
    lookup (t.map (fun e => (F e.1, e.2))) b = none := by
  rw [lookup_eq_none, List.forall_mem_map]
  exact h

theorem lookup_map_node (g : Path → Node → Node) (t : Tree) (q : Path) :
    lookup (t.map (fun e => (e.1, g e.1 e.2))) q = (lookup t q).map (g q) := by
  induction t with
  | nil => rfl
  | cons e t ih =>
    rw [List.map_cons, lookup_cons, lookup_cons, ih]
    by_cases h : e.1 = q
    · rw [if_pos h, if_pos h, h]; rfl
    · rw [if_neg h, if_neg h]

theorem removeKey_cons (e : Path × Node) (t : Tree) (b : Path) :
    removeKey (e :: t) b = if e.1 = b then removeKey t b else e :: removeKey t b := by
  unfold removeKey
  rw [List.filter_cons]
  by_cases h : e.1 = b
  · rw [if_pos h, beq_iff_eq.2 h]; rfl
  · rw [if_neg h, beq_false_of_ne h]; rfl

theorem removeKey_length_lt {t : Tree} {p : Path} {n : Node} (h : lookup t p = some n) :
    (removeKey t p).length < t.length :=
  List.length_filter_lt_length_iff_exists.2 ⟨_, mem_of_lookup h, by rw [beq_self_eq_true]; exact Bool.false_ne_true⟩

theorem lookup_removeKey (t : Tree) (a q : Path) :
    lookup (removeKey t a) q = if q = a then none else lookup t q := by
  induction t with
  | nil => exact (ite_self none).symm
  | cons e t ih =>
    rw [removeKey_cons, lookup_cons]
    by_cases he : e.1 = a
    · rw [if_pos he, ih]
      by_cases hq : q = a
      · rw [if_pos hq, if_pos hq]
      · rw [if_neg hq, if_neg hq, if_neg (he ▸ Ne.symm hq)]
    · rw [if_neg he, lookup_cons, ih]
      by_cases hq : q = a
      · rw [if_pos hq, if_pos hq, if_neg (hq ▸ he)]
      · rw [if_neg hq, if_neg hq]

theorem pairwise_fst_inj {α : Type} {l : List (Path × α)} (h : l.Pairwise (fun a b => a.1 ≠ b.1)) {a b : Path × α}
    (ha : a ∈ l) (hb : b ∈ l) (hab : a.1 = b.1) : a = b :=
  List.Pairwise.forall_of_forall_of_flip (R := fun a b => a.1 = b.1 → a = b) (fun _ _ _ => rfl)
    (h.imp fun hne e => absurd e hne) (h.imp fun hne e => absurd e.symm hne) ha hb hab

theorem lookup_of_mem {t : Tree} (hd : t.Pairwise (fun a b => a.1 ≠ b.1)) {e : Path × Node} (he : e ∈ t) :
    lookup t e.1 = some e.2 := by
  obtain ⟨n, hn⟩ := lookup_some_of_mem t e.1 ⟨e, he, rfl⟩
  rw [hn, ← pairwise_fst_inj hd (mem_of_lookup hn) he rfl]

theorem pairwise_keys_congr {t t' : Tree} (hk : t'.map (·.1) = t.map (·.1)) (hd : t.Pairwise (fun a b => a.1 ≠ b.1)) :
    t'.Pairwise (fun a b => a.1 ≠ b.1) :=
  List.pairwise_map.1 (hk ▸ List.pairwise_map.2 hd : (t'.map (·.1)).Pairwise (· ≠ ·))

theorem tree_ext (t t' : Tree) (hk : t'.map (·.1) = t.map (·.1)) (hd : t.Pairwise (fun a b => a.1 ≠ b.1))
    (hl : ∀ k, lookup t' k = lookup t k) : t' = t := by
  have hlen : t'.length = t.length := by rw [← List.length_map (f := (·.1)), hk, List.length_map]
  refine List.ext_getElem hlen fun i h1 h2 => ?_
  have hki : t'[i].1 = t[i].1 := by
    have := List.getElem_of_eq hk (i := i) (by rwa [List.length_map])
    rwa [List.getElem_map, List.getElem_map] at this
  have hli := hl t'[i].1
  rw [lookup_of_mem (pairwise_keys_congr hk hd) (List.getElem_mem h1), hki, lookup_of_mem hd (List.getElem_mem h2)] at hli
  exact Prod.ext hki (Option.some.inj hli)

def withContent (c : Bytes) : Node → Node
  | .file _ m => .file c m
  | n => n

def setNode (p : Path) (c : Bytes) (k : Path) (n : Node) : Node := if k == p then withContent c n else n

theorem setContent_eq (t : Tree) (p : Path) (c : Bytes) :
    setContent t p c = t.map (fun e => (e.1, setNode p c e.1 e.2)) := by
  unfold setContent
  apply List.map_congr_left
  intro e _
  unfold setNode
  by_cases h : (e.1 == p) = true
  · rw [if_pos h, if_pos h]; cases e.2 <;> rfl
  · rw [if_neg h, if_neg h]

theorem lookup_setContent (t : Tree) (p : Path) (c : Bytes) (q : Path) :
    lookup (setContent t p c) q = if q = p then (lookup t q).map (withContent c) else lookup t q := by
  rw [setContent_eq, lookup_map_node]
  by_cases h : q = p
  · rw [if_pos h, show setNode p c q = withContent c from funext fun _ => if_pos (beq_iff_eq.2 h)]
  · rw [if_neg h, show setNode p c q = id from funext fun _ => if_neg (mt beq_iff_eq.1 h), Option.map_id]; rfl

theorem lookup_setContent_of_ne (t : Tree) {p q : Path} (c : Bytes) (h : q ≠ p) :
    lookup (setContent t p c) q = lookup t q := by
  rw [lookup_setContent, if_neg h]

theorem keys_setContent (t : Tree) (p : Path) (c : Bytes) : (setContent t p c).map (·.1) = t.map (·.1) := by
  rw [setContent_eq, List.map_map]; rfl

theorem rename_ok {t t' : Tree} {a b : Path} (h : rename t a b = .ok t') :
    (∃ na, lookup t a = some na) ∧ parentOk t b = .ok () ∧
    ((a = b ∧ t' = t) ∨ (a ≠ b ∧ pre a b = false ∧
      t' = (if lookup t b = none then t else removeKey t b).map (fun e => (subst a b e.1, e.2)))) := by
  unfold rename at h
  split at h
  · cases h
  · next na hna =>
    split at h
    · cases h
    · next hpar =>
      refine ⟨⟨na, hna⟩, hpar, ?_⟩
      by_cases hab : a = b
      · rw [if_pos (beq_iff_eq.2 hab)] at h
        exact Or.inl ⟨hab, (Except.ok.inj h).symm⟩
      · rw [if_neg (mt beq_iff_eq.1 hab)] at h
        split at h
        · cases h
        · next hpre =>
          refine Or.inr ⟨hab, Bool.eq_false_iff.2 hpre, ?_⟩
          split at h
          · next hb => rw [if_pos hb]; exact (Except.ok.inj h).symm
          · next nb hb =>
            rw [if_neg (hb ▸ Option.some_ne_none nb)]
            split at h
            · split at h
              · cases h
              · exact (Except.ok.inj h).symm
            · cases h
            · cases h
            · exact (Except.ok.inj h).symm

theorem subst_key {a b q : Path} (ha : pre a q = false) (hb : pre b q = false) (k : Path) :
    subst a b k = q ↔ k = q := by
  rw [subst]
  split
  · next hk =>
    exact ⟨fun h => absurd (h ▸ pre_append b _) (Bool.eq_false_iff.1 hb),
      fun h => absurd (h ▸ hk) (Bool.eq_false_iff.1 ha)⟩
  · exact Iff.rfl

theorem rename_frame (t t' : Tree) (a b q : Path) (h : rename t a b = .ok t')
    (ha : pre a q = false) (hb : pre b q = false) : lookup t' q = lookup t q := by
  obtain ⟨-, -, ⟨_, rfl⟩ | ⟨_, -, rfl⟩⟩ := rename_ok h
  · rfl
  · rw [lookup_map_key (subst a b) _ q q fun e _ => subst_key ha hb e.1]
    split
    · rfl
    · rw [lookup_removeKey, if_neg fun hq : q = b => Bool.eq_false_iff.1 hb (hq ▸ pre_refl q)]

theorem rename_move (T : Tree) (a b : Path) (na : Node) (h1 : lookup T a = some na)
    (h2 : parentOk T b = .ok ()) (h3 : a.length = b.length) (h4 : a ≠ b → lookup T b = none) :
    rename T a b = .ok (T.map (fun e => (subst a b e.1, e.2))) := by
  unfold rename
  rw [h1, h2]
  dsimp only
  by_cases hab : a = b
  · subst hab
    rw [if_pos (beq_self_eq_true a)]
    simp only [subst_self, List.map_id']
  · have hp : ¬ pre a b = true := fun h => hab (pre_eq_of_length h (Nat.le_of_eq h3.symm))
    rw [if_neg (mt beq_iff_eq.1 hab), if_neg hp, h4 hab]

end RenamePhase
