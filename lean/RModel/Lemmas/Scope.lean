import RModel.Model.Scope
/- helper lemmas for Props/C09.lean -/
namespace Scope

theorem cfg_mem_allCfgs (W : WalkerCfg) (l : Nat) : W.cfg l ∈ W.allCfgs := by
  unfold WalkerCfg.cfg WalkerCfg.allCfgs
  split
  · next a h => exact List.mem_append_left _ (List.mem_map_of_mem (List.mem_of_find?_eq_some h))
  · exact List.mem_append_right _ List.mem_cons_self

theorem cfg_all (W : WalkerCfg) (q : LevelCfg → Bool) (h : W.allCfgs.all q = true) (l : Nat) : q (W.cfg l) = true :=
  List.all_eq_true.mp h _ (cfg_mem_allCfgs W l)

theorem walkedFrom_false (c : LevelCfg) (s : Site) (a : RelPath) (n : Name) (b : RelPath) : ∀ pre,
    (stepOk c s (pre ++ a) n && (b.isEmpty || descends c (s.ty (pre ++ a ++ [n])))) = false →
    walkedFrom c s pre (a ++ n :: b) = false := by
  induction a with
  | nil => intro pre h; rw [List.append_nil] at h; rw [List.nil_append, walkedFrom, h]; rfl
  | cons x a ih =>
    intro pre h
    rw [List.append_cons pre x a] at h
    rw [List.cons_append, walkedFrom, ih (pre ++ [x]) h, Bool.and_false]

theorem walked_false_of_step (c : LevelCfg) (s : Site) (a : RelPath) (n : Name) (b : RelPath)
    (h : stepOk c s a n = false) : walked c s (a ++ n :: b) = false :=
  walkedFrom_false c s a n b [] (by rw [List.nil_append, h]; rfl)

theorem walked_false_of_filtered (c : LevelCfg) (s : Site)
    (p : RelPath) (n : Name) (hn : n ∈ p) (hf : c.filtered.contains n = true) : walked c s p = false := by
  obtain ⟨a, b, rfl⟩ := List.append_of_mem hn
  exact walked_false_of_step c s a n b (by rw [stepOk, hf]; exact Bool.and_false _)

theorem walked_false_of_ignored (c : LevelCfg) (s : Site)
    (a : RelPath) (n : Name) (b : RelPath) (k : IgnKind) (hk : honoured c (inGitAt c s a) k = true)
    (hi : s.ign k (a ++ [n]) = true ∨ (c.parents = true ∧ s.ignAbove k (a ++ [n]) = true)) :
    walked c s (a ++ n :: b) = false := by
  have : ignoredBy c (inGitAt c s a) s (a ++ [n]) = true := by
    refine List.any_eq_true.2 ⟨k, by cases k <;> decide, ?_⟩
    rw [hk, Bool.true_and, Bool.or_eq_true, Bool.and_eq_true]
    exact hi
  exact walked_false_of_step c s a n b (by rw [stepOk, this]; rfl)

theorem walked_false_of_hidden (c : LevelCfg) (s : Site)
    (p : RelPath) (n : Name) (hn : n ∈ p) (hh : c.hidden = true) (hd : isHidden n = true) : walked c s p = false := by
  obtain ⟨a, b, rfl⟩ := List.append_of_mem hn
  exact walked_false_of_step c s a n b (by
    rw [stepOk, hh, hd, Bool.and_self, Bool.not_true, Bool.and_false, Bool.false_and])

theorem walked_false_below_symlink (c : LevelCfg) (s : Site)
    (a : RelPath) (n : Name) (b : RelPath) (hb : b ≠ []) (hl : c.followLinks = false) (ht : s.ty (a ++ [n]) = .symlink) :
    walked c s (a ++ n :: b) = false :=
  walkedFrom_false c s a n b [] (by
    rw [List.nil_append, ht, descends, hl, List.isEmpty_eq_false_iff.2 hb]; exact Bool.and_false _)

theorem mem_expandPatterns {ex : Bool} {plain : List UInt8} {ps : List Bytes} {pat : Bytes} (hm : pat ∈ ps) :
    pat ∈ expandPatterns ex plain ps := by
  refine List.mem_flatMap.2 ⟨pat, hm, ?_⟩
  split <;> exact List.mem_cons_self

theorem rec_mem_expandPatterns {ex : Bool} {plain : List UInt8} {ps : List Bytes} {pat : Bytes} (hm : pat ∈ ps)
    (hex : ex = true) (hd : looksLikeDir plain pat = true) : recursivePattern pat ∈ expandPatterns ex plain ps := by
  refine List.mem_flatMap.2 ⟨pat, hm, ?_⟩
  rw [hex, hd, Bool.and_self, if_pos rfl]
  exact List.mem_cons_of_mem _ List.mem_cons_self

theorem isBinary_of_nul (S : SniffCfg) (buf : Bytes) (hb : S.boms.any (fun m => m.isPrefixOf buf) = false)
    (hz : B.contains (buf.take S.maxScan) 0 = true) : isBinary S buf = true := by
  rw [isBinary, hb, hz]; rfl

theorem forall_le3 (P : Nat → Prop) (h0 : P 0) (h1 : P 1) (h2 : P 2) (h3 : P 3) : ∀ l, l ≤ 3 → P l
  | 0, _ => h0
  | 1, _ => h1
  | 2, _ => h2
  | 3, _ => h3

end Scope
