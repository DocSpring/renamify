import RModel.Lemmas.PatchText
/-
  The quoted header names written by `replace_patch_headers` are read back unchanged by diffy's `parse_filename`, and
  parsing a patch whose two header lines were rewritten differs from parsing the original text in the two names only.
-/
namespace PatchParse
open Patch PatchText

-- instance search finds this only after a long detour, and every `simp` about header bytes asks for it anew
local instance : LawfulBEq UInt8 := inferInstance

theorem escChar_cases (c : UInt8) :
    (isEscaped c = false ∧ escChar c = [c]) ∨
    ∃ x, escChar c = [92, x] ∧ unescape x = some c ∧ (isEscaped x = true → x = 34 ∨ x = 92) := by
  by_cases he : isEscaped c = true
  · right
    simp only [isEscaped, Bool.or_eq_true, decide_eq_true_eq] at he
    rcases he with ((((h | h) | h) | h) | h) | h <;> subst h
    · exact ⟨110, by decide⟩
    · exact ⟨116, by decide⟩
    · exact ⟨48, by decide⟩
    · exact ⟨114, by decide⟩
    · exact ⟨34, by decide⟩
    · exact ⟨92, by decide⟩
  · left
    refine ⟨by simpa using he, ?_⟩
    simp only [isEscaped, Bool.or_eq_true, decide_eq_true_eq, not_or] at he
    simp [escChar, he]

/-- the quoted form contains none of diffy's `ESCAPED_CHARS` except `"` and `\` -/
theorem quoteName_clean {n : Bytes} {x : UInt8} (h : x ∈ quoteName n) (hx : isEscaped x = true) :
    x = 34 ∨ x = 92 := by
  unfold quoteName at h
  split at h
  · simp only [List.mem_append, List.mem_singleton, List.mem_flatMap] at h
    rcases h with (h | ⟨c, _, hc⟩) | h
    · exact Or.inl h
    · rcases escChar_cases c with ⟨hc', he⟩ | ⟨y, he, _, hy⟩
      · rw [he, List.mem_singleton] at hc
        rw [hc, hc'] at hx; cases hx
      · rw [he] at hc
        rcases List.mem_cons.1 hc with hc | hc
        · exact Or.inr hc
        · obtain rfl := List.mem_singleton.1 hc
          exact hy hx
    · exact Or.inl h
  · rename_i hany
    exact absurd (List.any_eq_true.2 ⟨x, h, hx⟩) hany

theorem quoteName_not (n : Bytes) : (9 : UInt8) ∉ quoteName n ∧ (10 : UInt8) ∉ quoteName n ∧ (13 : UInt8) ∉ quoteName n :=
  ⟨fun h => absurd (quoteName_clean h (by decide)) (by decide),
   fun h => absurd (quoteName_clean h (by decide)) (by decide),
   fun h => absurd (quoteName_clean h (by decide)) (by decide)⟩

theorem splitAtSub_single_none (c : UInt8) (s : Bytes) (h : c ∉ s) : splitAtSub [c] s = none := by
  induction s with
  | nil => simp [splitAtSub]
  | cons x xs ih =>
    rw [List.mem_cons, not_or] at h
    simp [splitAtSub, List.isPrefixOf, h.1, ih h.2]

theorem splitAtSub_single (c : UInt8) (s t : Bytes) (h : c ∉ s) :
    splitAtSub [c] (s ++ c :: t) = some (s, t) := by
  induction s with
  | nil => simp [splitAtSub, List.isPrefixOf]
  | cons x xs ih =>
    rw [List.mem_cons, not_or] at h
    simp [splitAtSub, List.isPrefixOf, h.1, ih h.2]

theorem stripPrefix_append (p x : Bytes) : stripPrefix p (p ++ x) = some x := by
  simp [stripPrefix]

theorem stripSuffix_append (x p : Bytes) : stripSuffix p (x ++ p) = some x := by
  simp [stripSuffix, List.isSuffixOf_iff_suffix.2 (List.suffix_append x p)]

theorem escaped_flatMap (n : Bytes) : escapedFilename (n.flatMap escChar) = .ok n := by
  induction n with
  | nil => rfl
  | cons c n ih =>
    rw [List.flatMap_cons]
    rcases escChar_cases c with ⟨hc, he⟩ | ⟨x, he, hu, _⟩
    · have hne : c ≠ 92 := by intro h; subst h; cases hc
      rw [he, List.singleton_append, escapedFilename.eq_def]
      simp [hne, hc, ih]
    · rw [he]
      simp only [List.cons_append, List.nil_append, escapedFilename, if_true, hu, ih]

/-- diffy's `parse_filename` reads back exactly the name `replace_patch_headers` wrote — for EVERY name -/
theorem parseFilename_quoted (pfx n : Bytes) : parseFilename pfx (pfx ++ quoteName n ++ [10]) = .ok n := by
  obtain ⟨h9, h10, _⟩ := quoteName_not n
  have e9 : splitAtSub [9] (quoteName n ++ [10]) = none :=
    splitAtSub_single_none 9 _ (by simp [h9])
  have e10 : splitAtSub [10] (quoteName n ++ [10]) = some (quoteName n, []) := splitAtSub_single 10 _ [] h10
  unfold parseFilename
  rw [List.append_assoc, stripPrefix_append]
  simp only [e9, e10]
  by_cases hany : n.any isEscaped = true
  · have hq : isQuoted (quoteName n) = some (n.flatMap escChar) := by
      unfold isQuoted quoteName
      rw [if_pos hany, List.append_assoc, stripPrefix_append]
      exact stripSuffix_append _ _
    simp only [hq, escaped_flatMap]
  · have hany' : n.any isEscaped = false := Bool.eq_false_iff.2 hany
    -- a name without `ESCAPED_CHARS` does not start with `"`
    have hq : isQuoted n = none := by
      unfold isQuoted stripPrefix
      cases n with
      | nil => rfl
      | cons c cs =>
        have hc : (34 == c) = false := beq_false_of_ne fun h =>
          absurd (List.any_eq_false.1 hany' c List.mem_cons_self) (by rw [← h]; decide)
        rw [List.isPrefixOf, hc]; rfl
    have hqn : quoteName n = n := by unfold quoteName; rw [if_neg hany]
    rw [hqn]
    simp only [hq, unescapedFilename, hany']
    rfl

/-- the two header lines `replace_patch_headers` writes (LF endings, as in diffy's output) -/
def hdr (a b : Bytes) : Bytes := (b!"--- " ++ quoteName a ++ [10]) ++ (b!"+++ " ++ quoteName b ++ [10])

theorem hdrLine_clean (pfx n : Bytes) (hp : (10 : UInt8) ∉ pfx ∧ (13 : UInt8) ∉ pfx) :
    (10 : UInt8) ∉ pfx ++ quoteName n ∧ (13 : UInt8) ∉ pfx ++ quoteName n :=
  ⟨fun h => (List.mem_append.1 h).elim hp.1 (quoteName_not n).2.1,
   fun h => (List.mem_append.1 h).elim hp.2 (quoteName_not n).2.2⟩

theorem minus_clean : (10 : UInt8) ∉ b!"--- " ∧ (13 : UInt8) ∉ b!"--- " := by simp

theorem plus_clean : (10 : UInt8) ∉ b!"+++ " ∧ (13 : UInt8) ∉ b!"+++ " := by simp

theorem sw_hdrLine (pfx n : Bytes) : sw (pfx ++ quoteName n ++ [10]) pfx = true := by
  rw [List.append_assoc]; exact sw_append _ _

theorem lines_hdr (a b body : Bytes) :
    lines (hdr a b ++ body) = (b!"--- " ++ quoteName a ++ [10]) :: (b!"+++ " ++ quoteName b ++ [10]) :: lines body := by
  have e : hdr a b ++ body = b!"--- " ++ quoteName a ++ [10] ++ (b!"+++ " ++ quoteName b ++ [10] ++ body) :=
    List.append_assoc _ _ _
  rw [e, lines_line_append _ _ (hdrLine_clean _ a minus_clean).1, lines_line_append _ _ (hdrLine_clean _ b plus_clean).1]

theorem parse_hdr (a b body : Bytes) (hb : sw body b!"@@" = true) :
    parse (hdr a b ++ body) =
      (match hunksLoop ((lines body).length + 1) (lines body) with
       | .error e => .error e
       | .ok hs => if inOrder hs then .ok { old := some a, new := some b, hunks := hs } else .error .order) := by
  obtain ⟨l, ls, hl⟩ := lines_body hb
  unfold parse
  rw [lines_hdr, hl]
  have s1 := sw_hdrLine b!"--- " a
  have s3 := sw_hdrLine b!"+++ " b
  have s2 : sw (b!"+++ " ++ quoteName b ++ [10]) b!"--- " = false := sw_head_ne s3 (by decide)
  have s4 : sw (64 :: 64 :: l) b!"--- " = false := sw_head_ne (sw_append b!"@@" l) (by decide)
  have s5 : sw (64 :: 64 :: l) b!"+++ " = false := sw_head_ne (sw_append b!"@@" l) (by decide)
  simp only [skipPreamble, isHeaderStart, patchHeader, s1, s2, s3, s4, s5, Bool.true_or, if_true,
    Option.isSome_none, Bool.false_eq_true, if_false, parseFilename_quoted]
  rfl

theorem rewrite_hdr (o n a b body : Bytes) (hb : sw body b!"@@" = true) :
    rewriteHeaders (hdr o n ++ body) a b = hdr a b ++ body := by
  have ho := hdrLine_clean b!"--- " o minus_clean
  have hn := hdrLine_clean b!"+++ " n plus_clean
  unfold rewriteHeaders hdr
  rw [rewriteGo_shape _ _ body _ _ ⟨_, rfl, ho.1⟩ ⟨_, rfl, hn.1⟩ (sw_hdrLine _ o) (sw_hdrLine _ n) hb, eol_lf ho.2,
    eol_lf hn.2]
  simp only [List.append_assoc]

/-- diffy's formatter and renamify's `quote` closure write a name without `ESCAPED_CHARS` as it is -/
theorem fmtName_plain {n : Bytes} (h : n.any isEscaped = false) : fmtName n = quoteName n := by
  rw [fmtName, quoteName, h]; rfl

/-- `Patch::to_string()` of a patch whose header names need no quoting -/
theorem fmt_eq_hdr (p : Patch.Patch) {o n : Bytes} (ho : p.old = some o) (hn : p.new = some n)
    (hoe : o.any isEscaped = false) (hne : n.any isEscaped = false) :
    fmt p = hdr o n ++ p.hunks.flatMap fmtHunk := by
  simp only [fmt, fmtHeader, ho, hn, fmtName_plain hoe, fmtName_plain hne]; rfl

theorem body_starts (hs : List Patch.Hunk) (h : hs ≠ []) : sw (hs.flatMap fmtHunk) b!"@@" = true := by
  cases hs with
  | nil => exact absurd rfl h
  | cons x xs => rfl

theorem parse_rewrite (p : Patch.Patch) (a b : Bytes) {o n : Bytes} (ho : p.old = some o) (hn : p.new = some n)
    (hoe : o.any isEscaped = false) (hne : n.any isEscaped = false) (hh : p.hunks ≠ [])
    (hp : parse (fmt p) = .ok p) :
    parse (rewriteHeaders (fmt p) a b) = .ok { p with old := some a, new := some b } := by
  have hb := body_starts p.hunks hh
  rw [fmt_eq_hdr p ho hn hoe hne] at hp ⊢
  rw [rewrite_hdr _ _ a b _ hb, parse_hdr a b _ hb]
  rw [parse_hdr _ _ _ hb] at hp
  cases hl : hunksLoop ((lines (p.hunks.flatMap fmtHunk)).length + 1) (lines (p.hunks.flatMap fmtHunk)) with
  | error e => rw [hl] at hp; cases hp
  | ok hs =>
    rw [hl] at hp
    simp only at hp ⊢
    by_cases hio : inOrder hs = true
    · simp only [hio, if_true] at hp ⊢
      injection hp with hp
      rw [← hp]
    · simp only [hio] at hp; cases hp

end PatchParse
