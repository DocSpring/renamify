import RModel.Model.Hunks
import RModel.Lemmas.Matcher
/- helper lemmas for the literal planner (`process_file_content`) -/
namespace Hunks
open Matcher

theorem linesWT_flatten : ∀ s : Bytes, (linesWT s).flatten = s
  | [] => rfl
  | c :: cs => by
    have ih := linesWT_flatten cs
    rw [linesWT]
    split
    · rw [List.flatten_cons, ih]; rfl
    · split <;> next h =>
        rw [h] at ih
        rw [← ih]
        rfl

theorem stripTerm_prefix (l : Bytes) : stripTerm l <+: l := by
  unfold stripTerm
  split
  · next r h => rw [List.reverse_eq_cons_iff.mp h, List.reverse_cons, List.append_assoc]; exact List.prefix_append _ _
  · next r _ h => rw [List.reverse_eq_cons_iff.mp h]; exact List.prefix_append _ _
  · exact List.prefix_refl _

theorem strLinesFrom_spec (pre : Bytes) (ls : List Bytes) :
    ∀ ol ∈ strLinesFrom ls pre.length, ol.2 <+: (pre ++ ls.flatten).drop ol.1 := by
  induction ls generalizing pre with
  | nil => intro ol h; simp [strLinesFrom] at h
  | cons l rest ih =>
    intro ol h
    simp only [strLinesFrom, List.mem_cons] at h
    rcases h with rfl | h
    · simp only [List.flatten_cons]
      rw [List.drop_append_of_le_length (Nat.le_refl _), List.drop_length, List.nil_append]
      exact (stripTerm_prefix l).trans (List.prefix_append _ _)
    · have := ih (pre ++ l) ol (by simpa using h)
      simpa [List.append_assoc] using this

theorem strLines_spec (s : Bytes) : ∀ ol ∈ strLines s, ol.2 <+: s.drop ol.1 := by
  intro ol h
  have := strLinesFrom_spec [] (linesWT s) ol (by simpa [strLines] using h)
  simpa [linesWT_flatten] using this

theorem firstAlt_singleton {pat : Bytes} (hpat : pat ≠ []) (s : Bytes) :
    firstAlt [pat] s = if pat.isPrefixOf s then some pat else none := by
  rw [firstAlt, List.find?_cons, List.isEmpty_eq_false_iff.mpr hpat]
  cases pat.isPrefixOf s <;> rfl

theorem findAll_eq_scan {pat : Bytes} (hpat : pat ≠ []) : ∀ (rest : Bytes) (pos skip : Nat),
    findAll pat rest pos skip = (scan [pat] rest pos skip).map (·.1)
  | [], _, _ => rfl
  | _ :: cs, pos, skip + 1 => findAll_eq_scan hpat cs (pos + 1) skip
  | c :: cs, pos, 0 => by
    rw [findAll, scan, firstAlt_singleton hpat]
    split
    · rw [List.map_cons, findAll_eq_scan hpat cs]
    · exact findAll_eq_scan hpat cs (pos + 1) 0

theorem mem_literalLines {fr : Bool} {pat repl : Bytes} {h : Hunk} : ∀ {lines : List (Nat × Bytes)} {n : Nat},
    h ∈ literalLines fr pat repl lines n →
      ∃ k off l, lines[k]? = some (off, l) ∧ h ∈ literalLine fr pat repl (n + k) off l
  | (off, l) :: rest, n, hh => by
    rcases List.mem_append.mp hh with hh | hh
    · exact ⟨0, off, l, rfl, hh⟩
    · obtain ⟨k, o, l', hk, hm⟩ := mem_literalLines hh
      exact ⟨k + 1, o, l', hk, by rwa [Nat.add_assoc, Nat.add_comm 1] at hm⟩

theorem literalLines_spec (fr : Bool) (pat repl T : Bytes) (hpat : pat ≠ []) (lines : List (Nat × Bytes)) (n : Nat)
    (hl : ∀ ol ∈ lines, ol.2 <+: T.drop ol.1) :
    ∀ h ∈ literalLines fr pat repl lines n, ∃ off,
      pat <+: T.drop (off + h.byteOffset) ∧
      h.start = (if fr then off else 0) + h.byteOffset ∧ h.stop = h.start + pat.length ∧ h.content = pat ∧
      (h.line = n → ∃ l, lines[0]? = some (off, l)) := by
  intro h hh
  obtain ⟨k, off, l, hk, hm⟩ := mem_literalLines hh
  obtain ⟨col, hcol, rfl⟩ := List.mem_map.mp hm
  rw [findAll_eq_scan hpat] at hcol
  obtain ⟨se, hse, rfl⟩ := List.mem_map.mp hcol
  obtain ⟨_, a, ha, _, _, hp⟩ := scan_good _ _ _ _ se hse
  cases List.mem_singleton.mp ha
  obtain ⟨t, ht⟩ := hl (off, l) (List.mem_of_getElem? hk)
  refine ⟨off, ?_, rfl, rfl, rfl, fun hn => ⟨l, ?_⟩⟩
  · rw [← List.drop_drop, ← ht, List.drop_append]
    exact hp.trans (List.prefix_append _ _)
  · cases Nat.add_eq_left.mp hn
    exact hk

theorem strLinesFrom_head {ls : List Bytes} {off o : Nat} {l : Bytes} (h : (strLinesFrom ls off)[0]? = some (o, l)) :
    o = off := by
  cases ls with
  | nil => cases h
  | cons x xs => cases h; rfl

end Hunks
