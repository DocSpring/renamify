import RModel.Model.LineEnv
import RModel.Lemmas.LineCompose
/-
  C06: the composed one-line model (`Model/LineEnv.lean`).  The real coercion decision has the contract `CoerceOk`.  Every
  identifier the extractor reports starts with a letter or `_` and ends with a letter, a digit or `_` (both alternatives
  of the regex, with the back-tracking of `\b`); so on `d₁ ++ x ++ d₂` with neutral delimiters and `x` a key every
  identifier lies inside the exact match, the compound pass adds nothing and drops nothing, and the composed pipeline is
  `LinePipeline.lineHunks (cfgReal c)`.
-/
open B CaseModel

namespace LinePipeline

theorem stripPrefix_eq_extractPrefix (s : Bytes) : stripPrefix s = (RenamePlan.extractPrefix s).2 := by
  fun_cases stripPrefix s
  next => rfl
  next h => rw [RenamePlan.extractPrefix.eq_2 _ h]
  next h1 h2 => rw [RenamePlan.extractPrefix.eq_3 _ h1 h2]

/-- the first exit of `apply_coercion` -/
theorem applyCoercion_none_of_guard (T : RenamePlan.Tables) {ctx old : Bytes} (new : Bytes)
    (h : coerceGuard ctx old = true) : RenamePlan.applyCoercion T ctx old new = none := by
  unfold coerceGuard at h
  rw [stripPrefix_eq_extractPrefix] at h
  unfold RenamePlan.applyCoercion
  simp only [h, ↓reduceIte]

theorem envReal_coerceOk (c : Cfg) : (envReal c).CoerceOk := fun _ _ new h => by
  show coerceReal coerceTables _ _ new = none
  rw [coerceReal, applyCoercion_none_of_guard coerceTables new h]

theorem envReal_heurOk {c : Cfg} (h : c.env.HeurOk) : (envReal c).HeurOk := h

/-- a span `(s, e)` reported for the text `cs` that starts at absolute position `pos` -/
def SpanOK (pos : Nat) (cs : Bytes) (se : Nat × Nat) : Prop :=
  pos ≤ se.1 ∧ se.1 < se.2 ∧ (∃ a, (cs.drop (se.1 - pos)).head? = some a ∧ Compound.isIdStart a = true) ∧
    (∃ z, (cs.take (se.2 - pos)).getLast? = some z ∧ Compound.isWord z = true) ∧ se.2 - pos ≤ cs.length

theorem spanOK_shift {pos : Nat} {c : UInt8} {cs : Bytes} {se : Nat × Nat} (h : SpanOK (pos + 1) cs se) :
    SpanOK pos (c :: cs) se := by
  obtain ⟨h1, h2, ⟨a, ha, hia⟩, ⟨z, hz, hiz⟩, hb⟩ := h
  refine ⟨by omega, h2, ⟨a, ?_, hia⟩, ⟨z, ?_, hiz⟩, by simp only [List.length_cons]; omega⟩
  · rw [show se.1 - pos = (se.1 - (pos + 1)) + 1 by omega, List.drop_succ_cons]; exact ha
  · rw [show se.2 - pos = (se.2 - (pos + 1)) + 1 by omega, List.take_succ_cons]
    have hne : cs.take (se.2 - (pos + 1)) ≠ [] := by
      intro hh; rw [hh] at hz; simp at hz
    rw [List.getLast?_cons_of_ne_nil hne]; exact hz

def EndsAt (q : UInt8 → Bool) (s : Bytes) (n : Nat) : Prop :=
  0 < n ∧ n ≤ s.length ∧ ∃ z, (s.take n).getLast? = some z ∧ q z = true

theorem EndsAt.mono {q q' : UInt8 → Bool} {s : Bytes} {n : Nat} (h : EndsAt q s n) (hq : ∀ z, q z = true → q' z = true) :
    EndsAt q' s n :=
  ⟨h.1, h.2.1, h.2.2.imp fun _ hz => ⟨hz.1, hq _ hz.2⟩⟩

theorem EndsAt.add {q : UInt8 → Bool} {s : Bytes} {a n : Nat} (h : EndsAt q (s.drop a) n) : EndsAt q s (a + n) := by
  obtain ⟨hn, hle, z, hz, hl⟩ := h
  refine ⟨by omega, by rw [List.length_drop] at hle; omega, z, ?_, hl⟩
  rw [List.take_add, List.getLast?_append, hz]; rfl

theorem idStart_idChar {c : UInt8} (h : Compound.isIdStart c = true) :
    Compound.isIdChar c = true ∧ (c == 45 || c == 46) = false := by
  simp only [Compound.isIdStart, Bool.or_eq_true, beq_iff_eq] at h
  rcases h with h | rfl
  · refine ⟨by simp [Compound.isIdChar, isAlnum, h], ?_⟩
    cases hc : c == 45 || c == 46 with
    | false => rfl
    | true => rcases Bool.or_eq_true_iff.mp hc with h' | h' <;> cases beq_iff_eq.mp h' <;> exact absurd h (by decide)
  · decide

theorem isWord_of_idChar {z : UInt8} (h : Compound.isIdChar z = true) (hp : (z == 45 || z == 46) = false) :
    Compound.isWord z = true := by
  simp only [Compound.isIdChar, Bool.or_eq_true] at h
  simp only [Bool.or_eq_false_iff] at hp
  simp only [Compound.isWord, Bool.or_eq_true]
  rcases h with ((h | h) | h) | h
  · exact Or.inl h
  · exact Or.inr h
  · rw [hp.1] at h; cases h
  · rw [hp.2] at h; cases h

/-- the identifier alternative: the run of identifier bytes with trailing `-` / `.` given back -/
theorem identLen_spec {c : UInt8} (cs : Bytes) (hc : Compound.isIdStart c = true) :
    EndsAt Compound.isWord (c :: cs) (Compound.identLen (c :: cs)) := by
  obtain ⟨hcid, hcp⟩ := idStart_idChar hc
  -- `r` is the run, reversed, without the bytes given back: a prefix of the input when turned round again
  generalize hrun : (c :: cs).takeWhile Compound.isIdChar = run
  generalize hr : run.reverse.dropWhile (fun c => c == 45 || c == 46) = r
  have hlen : Compound.identLen (c :: cs) = r.reverse.length := by rw [List.length_reverse, ← hr, ← hrun]; rfl
  have hsuf : r <:+ run.reverse := hr ▸ List.dropWhile_suffix _
  have hpre : r.reverse <+: c :: cs :=
    (List.reverse_reverse run ▸ List.reverse_prefix.mpr hsuf).trans (hrun ▸ List.takeWhile_prefix _)
  have hcmem : c ∈ run.reverse := by
    rw [List.mem_reverse, ← hrun, List.takeWhile_cons, hcid]; exact List.mem_cons_self ..
  cases r with
  | nil => exact absurd (List.dropWhile_eq_nil hr c hcmem) (by rw [hcp]; decide)
  | cons z r' =>
    have hzp := List.head?_dropWhile_not (fun c => c == 45 || c == 46) run.reverse
    rw [hr] at hzp
    have hzid : Compound.isIdChar z = true :=
      List.mem_takeWhile_imp (hrun ▸ List.mem_reverse.mp (hsuf.subset (List.mem_cons_self ..)))
    rw [hlen]
    refine ⟨by simp, hpre.length_le, z, ?_, isWord_of_idChar hzid hzp⟩
    rw [← List.prefix_iff_eq_take.mp hpre, List.getLast?_reverse]; rfl

theorem titleWordLen_spec {s : Bytes} {n : Nat} (h : Compound.titleWordLen s = some n) : EndsAt isLower s n := by
  unfold Compound.titleWordLen at h
  split at h
  · rename_i c d r
    split at h
    · rename_i hcd
      cases h
      have hpre := List.takeWhile_prefix (l := r) isLower
      have htake : (c :: d :: r).take (2 + (r.takeWhile isLower).length) = c :: d :: r.takeWhile isLower := by
        rw [show 2 + (r.takeWhile isLower).length = (r.takeWhile isLower).length + 1 + 1 by omega,
          List.take_succ_cons, List.take_succ_cons, ← List.prefix_iff_eq_take.mp hpre]
      have hall : ∀ y ∈ d :: r.takeWhile isLower, isLower y = true := by
        intro y hy
        rcases List.mem_cons.mp hy with rfl | hy
        · simp only [Bool.and_eq_true] at hcd; exact hcd.2
        · exact List.mem_takeWhile_imp hy
      refine ⟨by omega, by have := hpre.length_le; simp only [List.length_cons]; omega, ?_⟩
      rw [htake, List.getLast?_cons_of_ne_nil (by simp)]
      exact ⟨_, List.getLast?_eq_some_getLast (by simp), hall _ (List.getLast_mem _)⟩
    · cases h
  · cases h

theorem titleEnds_spec {s : Bytes} : ∀ (fuel : Nat) (t : Bytes) (off : Nat) (acc : List Nat), t = s.drop off →
    (∀ n ∈ acc, EndsAt isLower s n) → ∀ n ∈ Compound.titleEnds fuel t off acc, EndsAt isLower s n
  | 0, _, _, _, _, hacc => by simpa [Compound.titleEnds] using hacc
  | fuel + 1, t, off, acc, ht, hacc => by
    subst ht
    intro n hn
    unfold Compound.titleEnds at hn
    simp only at hn
    split at hn
    · exact hacc n hn
    · split at hn
      · exact hacc n hn
      · rename_i m hm
        refine titleEnds_spec fuel _ _ _ ?_ ?_ n hn
        · rw [List.drop_drop]; congr 1; omega
        · intro k hk
          rcases List.mem_cons.mp hk with rfl | hk
          · have := titleWordLen_spec hm
            rw [List.drop_drop] at this
            exact this.add
          · exact hacc k hk

theorem titleLen_spec {s : Bytes} {n : Nat} (h : Compound.titleLen s = some n) : EndsAt isLower s n := by
  unfold Compound.titleLen at h
  split at h
  · cases h
  · rename_i n0 h0
    refine titleEnds_spec (s := s) s.length (s.drop n0) n0 [n0] rfl ?_ n (List.mem_of_find?_eq_some h)
    intro k hk
    cases List.mem_singleton.mp hk
    exact titleWordLen_spec h0

theorem matchLen_spec (title : Bool) {c : UInt8} (cs : Bytes) (hc : Compound.isIdStart c = true) :
    EndsAt Compound.isWord (c :: cs) (match (if title = true then Compound.titleLen (c :: cs) else none) with
      | some n => n
      | none => Compound.identLen (c :: cs)) := by
  split
  · rename_i n hn
    split at hn
    · exact (titleLen_spec hn).mono fun z h => by simp only [Compound.isWord, isAlnum, isAlpha, h, Bool.or_true, Bool.true_or]
    · cases hn
  · exact identLen_spec cs hc

theorem scanIdents_step {title : Bool} {c : UInt8} {cs : Bytes} {pos : Nat} (atB : Bool) {len : Nat} {se : Nat × Nat}
    (hlen : Compound.isIdStart c = true → EndsAt Compound.isWord (c :: cs) len)
    (ih : ∀ prev skip, ∀ se ∈ Compound.scanIdents title prev skip (pos + 1) cs, SpanOK (pos + 1) cs se)
    (h : se ∈ (if (atB && Compound.isIdStart c) = true then
        (pos, pos + len) :: Compound.scanIdents title (some c) (len - 1) (pos + 1) cs
      else Compound.scanIdents title (some c) 0 (pos + 1) cs)) : SpanOK pos (c :: cs) se := by
  split at h
  · rename_i hcond
    simp only [Bool.and_eq_true] at hcond
    rcases List.mem_cons.mp h with rfl | h
    · obtain ⟨hpos, hle, z, hz, hok⟩ := hlen hcond.2
      exact ⟨Nat.le_refl _, by simp only; omega, ⟨c, by simp, hcond.2⟩, ⟨z, by simpa using hz, hok⟩, by simpa using hle⟩
    · exact spanOK_shift (ih _ _ se h)
  · exact spanOK_shift (ih _ _ se h)

theorem scanIdents_spans (title : Bool) : ∀ (cs : Bytes) (prev : Option UInt8) (skip pos : Nat),
    ∀ se ∈ Compound.scanIdents title prev skip pos cs, SpanOK pos cs se
  | [], _, skip, _ => by intro se h; cases skip <;> simp [Compound.scanIdents] at h
  | c :: cs, prev, skip + 1, pos => by
    intro se h
    rw [Compound.scanIdents] at h
    exact spanOK_shift (scanIdents_spans title cs _ _ _ se h)
  | c :: cs, prev, 0, pos => by
    intro se h
    unfold Compound.scanIdents at h
    exact scanIdents_step _ (matchLen_spec title cs) (fun p k => scanIdents_spans title cs p k (pos + 1)) h

def totLen (parts : List Bytes) : Nat := (parts.map (fun p => p.length + 1)).sum

theorem totLen_splitOn_go (d : UInt8) : ∀ (s cur : Bytes), totLen (splitOn.go d s cur) = s.length + cur.length + 1
  | [], cur => by simp [splitOn.go, totLen]
  | c :: cs, cur => by
    rw [splitOn.go]
    split
    · simp only [totLen, List.map_cons, List.sum_cons, List.length_reverse, List.length_cons]
      have := totLen_splitOn_go d cs []
      simp only [totLen, List.length_nil] at this
      omega
    · rw [totLen_splitOn_go d cs (c :: cur)]
      simp only [List.length_cons]; omega

theorem totLen_splitOn (s : Bytes) (d : UInt8) : totLen (splitOn s d) = s.length + 1 := by
  unfold splitOn; rw [totLen_splitOn_go]; simp

theorem splitDots_within (trim : Bool) : ∀ (parts : List Bytes) (pos : Nat),
    ∀ x ∈ Compound.splitDots trim pos parts, pos ≤ x.1 ∧ x.2.1 + 1 ≤ pos + totLen parts
  | [], _ => by intro x h; simp [Compound.splitDots] at h
  | p :: ps, pos => by
    intro x h
    rw [Compound.splitDots] at h
    have hseg : (if trim = true then p.dropWhile (fun x => x == 45) else p).length ≤ p.length := by
      split
      · exact (List.dropWhile_sublist _).length_le
      · exact Nat.le_refl _
    generalize (if trim = true then p.dropWhile (fun x => x == 45) else p) = seg at h hseg
    have htot : totLen (p :: ps) = p.length + 1 + totLen ps := by simp [totLen]
    rcases List.mem_append.mp h with h | h
    · split at h
      · simp at h
      · simp only [List.mem_singleton] at h
        subst h
        simp only
        omega
    · have := splitDots_within trim ps _ x h
      omega

theorem findAllG_within (trim : Bool) (styles : List Style) (content : Bytes) :
    ∀ x ∈ Compound.findAllG trim styles content,
      ∃ se ∈ Compound.scanIdents (styles.contains .title) none 0 0 content, se.1 ≤ x.1 ∧ x.2.1 ≤ se.2 := by
  intro x hx
  unfold Compound.findAllG at hx
  simp only [List.mem_flatMap] at hx
  obtain ⟨se, hse, hx⟩ := hx
  refine ⟨se, hse, ?_⟩
  obtain ⟨_, hlt, _, _, _⟩ := scanIdents_spans _ content none 0 0 se hse
  obtain ⟨s, e⟩ := se
  simp only at hx hlt ⊢
  split at hx
  · have := splitDots_within trim _ s x hx
    rw [totLen_splitOn] at this
    have hl : ((content.drop s).take (e - s)).length ≤ e - s := by
      rw [List.length_take]; exact Nat.min_le_left _ _
    omega
  · simp only [List.mem_singleton] at hx
    subst hx
    exact ⟨Nat.le_refl _, Nat.le_refl _⟩

theorem neutral_not_idStart {c : UInt8} (h : neutralByte c = true) : Compound.isIdStart c = false := by
  simp only [neutralByte, Bool.and_eq_true, Bool.not_eq_true', bne_iff_ne, ne_eq] at h
  simp only [Compound.isIdStart, Bool.or_eq_false_iff, beq_eq_false_iff_ne, ne_eq]
  refine ⟨?_, h.2⟩
  have := h.1.1
  simp only [isAlnum, Bool.or_eq_false_iff] at this
  exact this.1

theorem neutral_not_isWord {c : UInt8} (h : neutralByte c = true) : Compound.isWord c = false := by
  simp only [neutralByte, Bool.and_eq_true, Bool.not_eq_true', bne_iff_ne, ne_eq] at h
  simp only [Compound.isWord, Bool.or_eq_false_iff, beq_eq_false_iff_ne, ne_eq]
  exact ⟨h.1.1, h.2⟩

theorem span_inside {d₁ x d₂ : Bytes} (h1 : NeutralDelim d₁) (h2 : NeutralDelim d₂) {se : Nat × Nat}
    (h : SpanOK 0 (d₁ ++ x ++ d₂) se) : d₁.length ≤ se.1 ∧ se.2 ≤ d₁.length + x.length := by
  obtain ⟨_, hlt, ⟨a, ha, hia⟩, ⟨z, hz, hiz⟩, hb⟩ := h
  simp only [Nat.sub_zero] at ha hz hb
  rw [List.head?_drop] at ha
  have hs : d₁.length ≤ se.1 := by
    apply Nat.le_of_not_lt
    intro hlt'
    rw [List.append_assoc, List.getElem?_append_left hlt'] at ha
    have := neutral_not_idStart (h1 a (List.mem_of_getElem? ha))
    rw [this] at hia; exact absurd hia (by decide)
  refine ⟨hs, ?_⟩
  apply Nat.le_of_not_lt
  intro hgt
  -- the last byte of the span would lie in d₂
  have hpos : 0 < se.2 := by omega
  have hget : (d₁ ++ x ++ d₂)[se.2 - 1]? = some z := by
    rw [← hz, List.getLast?_take]
    have hne : se.2 ≠ 0 := by omega
    simp only [hne, ↓reduceIte]
    have hlt3 : se.2 - 1 < (d₁ ++ x ++ d₂).length := by omega
    rw [List.getElem?_eq_getElem hlt3]; rfl
  have hk : d₂[se.2 - 1 - (d₁.length + x.length)]? = some z := by
    rw [← hget, List.getElem?_append_right (by simp only [List.length_append]; omega)]
    simp only [List.length_append]
  have := neutral_not_isWord (h2 z (List.mem_of_getElem? hk))
  rw [this] at hiz; exact absurd hiz (by decide)

theorem compoundCands_nil {c : Cfg} {d₁ x d₂ : Bytes} (h1 : NeutralDelim d₁) (h2 : NeutralDelim d₂) :
    compoundCands c (d₁ ++ x ++ d₂) [(d₁.length, d₁.length + x.length)] = [] := by
  unfold compoundCands
  rw [List.filterMap_eq_nil_iff]
  intro y hy
  obtain ⟨se, hse, hle1, hle2⟩ := findAllG_within _ _ _ y hy
  have hin := span_inside h1 h2 (scanIdents_spans _ _ none 0 0 se hse)
  unfold Compound.compoundOf
  have : ([(d₁.length, d₁.length + x.length)].any fun x_1 =>
      match x_1 with
      | (ps, pe) => decide (ps ≤ y.1) && decide (pe ≥ y.2.1)) = true := by
    simp only [List.any_cons, List.any_nil, Bool.or_false, Bool.and_eq_true, decide_eq_true_eq]
    omega
  rw [this]; rfl

theorem cfgReal_vmap (c : Cfg) : (cfgReal c).vmap = c.vmap := rfl

theorem containsKey_of_mem_keys {m : SMap} {k : Bytes} (h : k ∈ m.keys) : m.containsKey k = true :=
  List.mem_map_fst_iff.mp (mem_keys.mp h)

/-- `find_enhanced_matches` on the line: exactly the exact match -/
theorem finalMs_occurrence {c : Cfg} {d₁ x d₂ : Bytes}
    (hskip : skipExact c.A c.search (stylesSlice c.opts) = false)
    (hx : x ∈ c.vmap.keys) (hk : ∀ k ∈ c.vmap.keys, Ends k) (h1 : NeutralDelim d₁) (h2 : NeutralDelim d₂) :
    finalMs c (d₁ ++ x ++ d₂) =
      [Compound.mkM (d₁ ++ x ++ d₂) d₁.length (d₁.length + x.length) x x] := by
  unfold finalMs exactOf
  simp only [hskip, Bool.false_eq_true, ↓reduceIte, exactMatches_occurrence hx hk h1 h2, spansOf, List.map_cons,
    List.map_nil, compoundCands_nil h1 h2, List.append_nil]
  -- a single candidate: sorting and the overlap resolution leave it as it is
  rfl

theorem keptExact_occurrence {c : Cfg} {d₁ x d₂ : Bytes}
    (hskip : skipExact c.A c.search (stylesSlice c.opts) = false)
    (hx : x ∈ c.vmap.keys) (hk : ∀ k ∈ c.vmap.keys, Ends k) (h1 : NeutralDelim d₁) (h2 : NeutralDelim d₂) :
    keptExact c (d₁ ++ x ++ d₂) = [(d₁.length, x)] ∧ compoundHunks c (d₁ ++ x ++ d₂) = [] := by
  unfold keptExact compoundHunks
  rw [finalMs_occurrence hskip hx hk h1 h2]
  simp [Compound.mkM, containsKey_of_mem_keys hx]

/-- for EVERY neutral delimiter, `.`, white space and non-ASCII bytes included -/
theorem envReal_compound_nil {c : Cfg} {d₁ x d₂ : Bytes} {v : Bytes}
    (hskip : skipExact c.A c.search (stylesSlice c.opts) = false)
    (hx : x ∈ c.vmap.keys) (hk : ∀ k ∈ c.vmap.keys, Ends k) (hget : c.vmap.get x = some v)
    (h1 : NeutralDelim d₁) (h2 : NeutralDelim d₂) :
    (envReal c).compound (d₁ ++ x ++ d₂) = [] :=
  (keptExact_occurrence hskip hx hk h1 h2).2

theorem prefilter_occurrence {c : Cfg} {d₁ x d₂ : Bytes} (hx : x ∈ c.vmap.keys) (hk : ∀ k ∈ c.vmap.keys, Ends k)
    (h1 : NeutralDelim d₁) : prefilter c (d₁ ++ x ++ d₂) = true := by
  unfold prefilter matcherPatterns
  rw [List.any_eq_true]
  refine ⟨x, List.mem_append_left _ hx, ?_⟩
  have := findSub_occurrence (d₂ := d₂) (hk x hx).ne_nil (head_not_neutral (hk x hx) h1)
  unfold findSub at this
  rw [this]; rfl

theorem lineHunksReal_occurrence {c : Cfg} {d₁ x d₂ : Bytes}
    (hskip : skipExact c.A c.search (stylesSlice c.opts) = false)
    (hx : x ∈ c.vmap.keys) (hk : ∀ k ∈ c.vmap.keys, Ends k) (h1 : NeutralDelim d₁) (h2 : NeutralDelim d₂) :
    lineHunksReal c (d₁ ++ x ++ d₂) = lineHunks (cfgReal c) (d₁ ++ x ++ d₂) := by
  unfold lineHunksReal lineHunks
  have hs : skipExact (cfgReal c).A (cfgReal c).search (stylesSlice (cfgReal c).opts) = false := hskip
  obtain ⟨hkept, hc⟩ := keptExact_occurrence hskip hx hk h1 h2
  have hc : (cfgReal c).env.compound (d₁ ++ x ++ d₂) = [] := hc
  simp only [prefilter_occurrence hx hk h1, Bool.not_true, Bool.false_eq_true, ↓reduceIte, hs, cfgReal_vmap, hkept,
    exactMatches_occurrence hx hk h1 h2, exactHunks, hc, List.map_nil, List.append_nil]
  cases hunkReplacement (cfgReal c).A (cfgReal c).env c.vmap (d₁ ++ x ++ d₂) d₁.length x (cfgReal c).replace with
  | none => rfl
  | some r => simp [sortEdits, insertEdit]

theorem rewriteLineReal_occurrence {c : Cfg} {d₁ x d₂ : Bytes}
    (hskip : skipExact c.A c.search (stylesSlice c.opts) = false)
    (hx : x ∈ c.vmap.keys) (hk : ∀ k ∈ c.vmap.keys, Ends k) (h1 : NeutralDelim d₁) (h2 : NeutralDelim d₂) :
    rewriteLineReal c (d₁ ++ x ++ d₂) = rewriteLine (cfgReal c) (d₁ ++ x ++ d₂) := by
  unfold rewriteLineReal rewriteLine
  rw [lineHunksReal_occurrence hskip hx hk h1 h2]
  rfl

/-- `rewriteLine_occurrence` for the real environment: its coercion decision has the contract, its compound pass is silent -/
theorem rewriteLine_real_occurrence {c : Cfg} {x r d₁ d₂ : Bytes}
    (hskip : skipExact c.A c.search (stylesSlice c.opts) = false)
    (hx : x ∈ c.vmap.keys) (hk : ∀ k ∈ c.vmap.keys, Ends k)
    (hamb : isAmbiguous c.A x Gen.allStyles = false) (hget : c.vmap.get x = some r)
    (hfix : fixFirst x r = r) (hr : Ends r) (h1 : NeutralDelim d₁) (h2 : NeutralDelim d₂) (hcs : CharStart d₂) :
    rewriteLine (cfgReal c) (d₁ ++ x ++ d₂) = some (d₁ ++ r ++ d₂) := by
  have hcomp : (cfgReal c).env.compound (d₁ ++ x ++ d₂) = [] := (keptExact_occurrence hskip hx hk h1 h2).2
  rw [← cfgReal_vmap c] at hx hk hget
  exact rewriteLine_occurrence hskip hx hk hamb hget hfix hr (envReal_coerceOk c) hcomp h1 h2 hcs

end LinePipeline
