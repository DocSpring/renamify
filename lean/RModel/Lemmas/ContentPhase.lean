import RModel.Model.Apply
import RModel.Lemmas.Tree
import RModel.Lemmas.PathOrder
/- STEP 2 of `apply_plan` one file at a time (`contentPhase_cons`), and as ONE equation: when the content phase succeeds on a tree with distinct keys, the tree it leaves
   is the original with every planned file's bytes replaced by `applyEdits` of ITS ORIGINAL bytes — a `List.map` over the
   tree, so order, keys, modes, directories and links are visibly unchanged.  Used by `C02ren.apply_exact`. -/
namespace ContentPhase
open Fs Apply RenamePhase

def editNode (hs : List Hunk) (fs : List Path) (k : Path) (n : Node) : Node :=
  if k ∈ fs then
    match n with
    | .file c m =>
      (match Edits.applyEdits c (editsFor hs k) with
       | .ok c' => .file c' m
       | .error _ => n)
    | n => n
  else n

/-- the reference result of the content phase -/
def editAll (hs : List Hunk) (fs : List Path) (t : Tree) : Tree := t.map (fun e => (e.1, editNode hs fs e.1 e.2))

theorem editNode_nil (hs : List Hunk) (k : Path) (n : Node) : editNode hs [] k n = n := rfl

theorem editAll_nil (hs : List Hunk) (t : Tree) : editAll hs [] t = t :=
  (List.map_congr_left fun _ _ => rfl).trans (List.map_id t)

theorem contentPhase_cons (hs : List Hunk) (t : Tree) (f : Path) (fs : List Path) :
    (∃ c m c', lookup t f = some (.file c m) ∧ Utf8.valid c = true ∧ Edits.applyEdits c (editsFor hs f) = .ok c' ∧
      contentPhase hs t (f :: fs) = contentPhase hs (setContent t f c') fs) ∨
    (∃ o, contentPhase hs t (f :: fs) = (o, t) ∧ (o = .unreadable ∨ o = .mismatch ∨ o = .panic)) := by
  rw [contentPhase]
  split
  · next c m hl =>
    split
    · exact Or.inr ⟨_, rfl, Or.inl rfl⟩
    · next hv =>
      split
      · next c' ha => exact Or.inl ⟨c, m, c', hl, by simpa using hv, ha, rfl⟩
      · exact Or.inr ⟨_, rfl, Or.inr (Or.inl rfl)⟩
      · exact Or.inr ⟨_, rfl, Or.inr (Or.inr rfl)⟩
  · exact Or.inr ⟨_, rfl, Or.inl rfl⟩

theorem contentPhase_cons_ok {hs : List Hunk} {t t1 : Tree} {f : Path} {fs : List Path}
    (h : contentPhase hs t (f :: fs) = (.ok, t1)) :
    ∃ c m c', lookup t f = some (.file c m) ∧ Utf8.valid c = true ∧ Edits.applyEdits c (editsFor hs f) = .ok c' ∧
      contentPhase hs (setContent t f c') fs = (.ok, t1) := by
  rcases contentPhase_cons hs t f fs with ⟨c, m, c', hl, hv, ha, heq⟩ | ⟨o, heq, ho⟩
  · exact ⟨c, m, c', hl, hv, ha, heq ▸ h⟩
  · cases heq.symm.trans h
    rcases ho with ho | ho | ho <;> cases ho

theorem contentPhase_outcome (hs : List Hunk) : ∀ (fs : List Path) (t : Tree),
    (contentPhase hs t fs).1 = .ok ∨ (contentPhase hs t fs).1 = .unreadable ∨
      (contentPhase hs t fs).1 = .mismatch ∨ (contentPhase hs t fs).1 = .panic := by
  intro fs
  induction fs with
  | nil => intro t; exact Or.inl rfl
  | cons f fs ih =>
    intro t
    rcases contentPhase_cons hs t f fs with ⟨_, _, _, _, _, _, heq⟩ | ⟨o, heq, ho⟩
    · rw [heq]; exact ih _
    · rw [heq]; exact Or.inr ho

theorem contentPhase_induct {R : Tree → Tree → Prop} (hrefl : ∀ t, R t t) (htrans : ∀ {a b c}, R a b → R b c → R a c)
    (hs : List Hunk) : ∀ (fs : List Path) (t : Tree), (∀ t, ∀ f ∈ fs, ∀ c, R t (setContent t f c)) →
    R t (contentPhase hs t fs).2 := by
  intro fs
  induction fs with
  | nil => intro t _; exact hrefl t
  | cons f fs ih =>
    intro t hstep
    rcases contentPhase_cons hs t f fs with ⟨_, _, c', _, _, _, heq⟩ | ⟨o, heq, _⟩
    · rw [heq]
      exact htrans (hstep t f List.mem_cons_self c') (ih _ fun t f hf => hstep t f (List.mem_cons_of_mem _ hf))
    · rw [heq]; exact hrefl t

theorem contentPhase_frame (hs : List Hunk) (q : Path) (fs : List Path) (t : Tree) (hf : ∀ f ∈ fs, f ≠ q) :
    lookup (contentPhase hs t fs).2 q = lookup t q :=
  contentPhase_induct (R := fun a b => lookup b q = lookup a q) (fun _ => rfl) (fun h1 h2 => h2.trans h1) hs fs t
    fun t f hm c => lookup_setContent_of_ne t c (hf f hm).symm

theorem contentPhase_exact (hs : List Hunk) : ∀ (fs : List Path) (t t1 : Tree),
    fs.Pairwise (fun a b => a ≠ b) → t.Pairwise (fun a b => a.1 ≠ b.1) →
    contentPhase hs t fs = (.ok, t1) → t1 = editAll hs fs t := by
  intro fs
  induction fs with
  | nil => intro t t1 _ _ h; rw [editAll_nil]; exact (Prod.mk.inj h).2.symm
  | cons f fs ih =>
    intro t t1 hfs hd h
    rw [List.pairwise_cons] at hfs
    obtain ⟨c, m, c', hl, _, ha, h⟩ := contentPhase_cons_ok h
    rw [ih _ t1 hfs.2 (pairwise_keys_congr (keys_setContent t f c') hd) h, setContent_eq, editAll, editAll, List.map_map]
    refine List.map_congr_left fun e he => Prod.ext rfl ?_
    by_cases hk : e.1 = f
    · -- the entry that carries the key is the file `lookup` found, and `f` is not visited again
      have hnode : e.2 = .file c m := Option.some.inj ((lookup_of_mem hd he).symm.trans (hk ▸ hl))
      have hnot : f ∉ fs := fun hm => hfs.1 f hm rfl
      simp only [Function.comp, hk, hnode, setNode, withContent, beq_self_eq_true, ↓reduceIte, editNode, hnot, List.mem_cons,
        true_or, ha]
    · simp only [Function.comp, setNode, beq_false_of_ne hk, Bool.false_eq_true, ↓reduceIte, editNode, List.mem_cons, hk, false_or]

theorem contentPhase_plan_exact (hs : List Hunk) (t t1 : Tree) (hd : t.Pairwise (fun a b => a.1 ≠ b.1))
    (h : contentPhase hs t (sortedFiles hs) = (.ok, t1)) : t1 = editAll hs (sortedFiles hs) t :=
  contentPhase_exact hs _ t t1 (PathOrder.sortedFiles_nodup hs) hd h

end ContentPhase
