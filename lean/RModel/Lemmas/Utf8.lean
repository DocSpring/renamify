import RModel.Base.Utf8
import RModel.Model.Edits
/- In valid UTF-8 the byte after an ASCII byte is never a continuation byte (so a match that ends in an
   ASCII byte ends on a character boundary). -/
namespace Utf8
open Edits

theorem isCont_eq_false {b : UInt8} (h : b.toNat < 128 ∨ 192 ≤ b.toNat) : isCont b = false := by
  simp only [isCont, Bool.and_eq_false_iff, decide_eq_false_iff_not]
  omega

theorem isCharBoundary_iff {s : Bytes} {i : Nat} :
    isCharBoundary s i = true ↔ i ≤ s.length ∧ ∀ b, i ≠ 0 → s[i]? = some b → isCont b = false := by
  unfold isCharBoundary
  split
  · next h0 => exact ⟨fun _ => ⟨h0 ▸ Nat.zero_le _, fun _ h => absurd h0 h⟩, fun _ => rfl⟩
  · next h0 =>
    cases hb : s[i]? with
    | none =>
      have := List.getElem?_eq_none_iff.mp hb
      exact ⟨fun h => ⟨Nat.le_of_eq (of_decide_eq_true h), nofun⟩, fun h => decide_eq_true (Nat.le_antisymm h.1 this)⟩
    | some b =>
      have := (List.getElem?_eq_some_iff.mp hb).1
      exact ⟨fun h => ⟨Nat.le_of_lt this, fun _ _ e => Option.some.inj e ▸ (Bool.not_eq_true' _).mp h⟩,
        fun h => (Bool.not_eq_true' _).mpr (h.2 b h0 rfl)⟩

theorem isCharBoundary_length (s : Bytes) : isCharBoundary s s.length = true :=
  isCharBoundary_iff.mpr ⟨Nat.le_refl _, fun b _ hb => by simp at hb⟩

theorem isCharBoundary_of_ascii {s : Bytes} (h : ∀ c ∈ s, c.toNat < 128) (i : Nat) (hi : i ≤ s.length) :
    isCharBoundary s i = true :=
  isCharBoundary_iff.mpr ⟨hi, fun b _ hb => isCont_eq_false (Or.inl (h b (List.mem_of_getElem? hb)))⟩

theorem inR_ge {b : UInt8} {lo hi : Nat} (h : inR b lo hi = true) : lo ≤ b.toNat ∧ b.toNat ≤ hi := by
  simpa [inR] using h

theorem ge128_of_inR {b : UInt8} {lo hi : Nat} (h : inR b lo hi = true) (hlo : 128 ≤ lo) : 128 ≤ b.toNat :=
  Nat.le_trans hlo (inR_ge h).1

theorem lead_of_inR {b : UInt8} {lo hi : Nat} (h : inR b lo hi = true) (hlo : 192 ≤ lo) (k : Nat) :
    isCont b = false ∧ (b.toNat < 128 → k = 1) := by
  have := (inR_ge h).1
  exact ⟨isCont_eq_false (Or.inr (by omega)), fun _ => by omega⟩

theorem stepLen_ok {s : Bytes} {n : Nat} (h : stepLen s = .ok n) {b0 : UInt8} (h0 : s[0]? = some b0) :
    1 ≤ n ∧ (isCont b0 = false ∧ (b0.toNat < 128 → n = 1)) ∧ ∀ x ∈ (s.take n).tail, 128 ≤ x.toNat := by
  revert h
  -- one goal per branch of `stepLen`, with its result in place of `stepLen s`: the branches that fail go, the others fix `n`
  fun_cases stepLen s <;> rintro ⟨⟩ <;> cases h0
  · next hlt => exact ⟨Nat.le_refl _, ⟨isCont_eq_false (Or.inl hlt), fun _ => rfl⟩, nofun⟩
  · next h1 _ h0 =>
    exact ⟨by decide, lead_of_inR h0 (by decide) _, List.forall_mem_cons.mpr ⟨ge128_of_inR h1 (Nat.le_refl _), nofun⟩⟩
  · next h2 _ _ h0 lo _ h1 =>
    have hlo : 128 ≤ lo := by dsimp only [lo]; split <;> omega
    exact ⟨by decide, lead_of_inR h0 (by decide) _,
      List.forall_mem_cons.mpr ⟨ge128_of_inR h1 hlo, List.forall_mem_cons.mpr ⟨ge128_of_inR h2 (Nat.le_refl _), nofun⟩⟩⟩
  · next h2 _ _ h3 _ _ _ h0 lo _ h1 =>
    have hlo : 128 ≤ lo := by dsimp only [lo]; split <;> omega
    exact ⟨by decide, lead_of_inR h0 (by decide) _,
      List.forall_mem_cons.mpr ⟨ge128_of_inR h1 hlo, List.forall_mem_cons.mpr ⟨ge128_of_inR h2 (Nat.le_refl _),
        List.forall_mem_cons.mpr ⟨ge128_of_inR h3 (Nat.le_refl _), nofun⟩⟩⟩⟩

theorem validAux_zero {s : Bytes} (h : validAux 0 s = true) : s = [] :=
  List.isEmpty_iff.mp h

theorem validAux_cons {fuel : Nat} {b : UInt8} {bs : Bytes} (h : validAux (fuel + 1) (b :: bs) = true) :
    ∃ n, stepLen (b :: bs) = .ok n ∧ validAux fuel ((b :: bs).drop n) = true := by
  simp only [validAux] at h
  split at h
  · exact ⟨_, ‹_›, h⟩
  · cases h

theorem validAux_head : ∀ {fuel : Nat} {s : Bytes} {b : UInt8}, validAux fuel s = true → s[0]? = some b → isCont b = false
  | 0, _, _, h, hb => by rw [validAux_zero h] at hb; cases hb
  | _ + 1, _ :: _, _, h, hb => by
    obtain ⟨_, hn, _⟩ := validAux_cons h
    exact (stepLen_ok hn hb).2.1.1

theorem validAux_after_ascii : ∀ (fuel : Nat) (s : Bytes), validAux fuel s = true →
    ∀ i a b, s[i]? = some a → a.toNat < 128 → s[i + 1]? = some b → isCont b = false
  | 0, _, h, _, _, _, ha, _, _ => by rw [validAux_zero h] at ha; cases ha
  | fuel + 1, b0 :: rest, h, i, a, b, ha, hlt, hb => by
    obtain ⟨n, hn, hv⟩ := validAux_cons h
    obtain ⟨_, ⟨_, hone⟩, htail⟩ := stepLen_ok hn (b0 := b0) rfl
    rcases Nat.lt_or_ge i n with hin | hge
    · -- `a` lies in the first character: it is ASCII, so it is that character, and `b` starts the next
      have hi : i = 0 := by
        apply Nat.eq_zero_of_not_pos
        intro hpos
        have := htail a (List.mem_of_getElem? (i := i - 1)
          (by rw [List.getElem?_tail, Nat.sub_add_cancel hpos, List.getElem?_take_of_lt hin]; exact ha))
        omega
      subst hi
      cases ha
      rw [hone hlt] at hv
      exact validAux_head hv hb
    · refine validAux_after_ascii fuel _ hv (i - n) a b ?_ hlt ?_
      · rw [List.getElem?_drop, Nat.add_sub_cancel' hge]; exact ha
      · rw [List.getElem?_drop, ← Nat.add_assoc, Nat.add_sub_cancel' hge]; exact hb

theorem valid_after_ascii {s : Bytes} (h : valid s = true) (i : Nat) (a b : UInt8)
    (ha : s[i]? = some a) (hlt : a.toNat < 128) (hb : s[i + 1]? = some b) : isCont b = false :=
  validAux_after_ascii _ _ h i a b ha hlt hb

end Utf8
