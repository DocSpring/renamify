import RModel.Lemmas.Exec
/-
  Runs in which nothing is injected any more (`QuietAt`), and on top of them the rename phase of the repaired
  `apply_plan` (rollback with the pairs as executed, log errors ignored) under ONE injected failure (`Pending k e`): a
  fragment either ends normally, or reports an error only because the injected failure fired inside it, and then the
  state is quiet and the tree is restored.
  Property theorems are in `RModel/Props/C04.lean` and `RModel/Props/C11.lean`.
-/

namespace ExecL
open Fs Apply Exec RenamePhase

def Quiet (s : St) : Prop := s.inj = .none ∨ ∃ k e, s.inj = .fail k e ∧ k < s.n

def SatQ {α : Type} (s : St) (Q : α → Tree → Prop) (E : Tree → Prop) : Res α → Prop
  | .ok a s' => s'.inj = s.inj ∧ s.n ≤ s'.n ∧ Q a s'.t
  | .err _ s' => s'.inj = s.inj ∧ s.n ≤ s'.n ∧ E s'.t
  | .crash _ => False

def SafeQ {α : Type} (P : Tree → Prop) (x : M α) (Q : α → Tree → Prop) (E : Tree → Prop) : Prop :=
  ∀ s : St, Quiet s → P s.t → SatQ s Q E (x s)

/-- `SafeQ` is the logic in the modes `QuietAt i n`, in closed form -/
theorem safeQ_of_run {α : Type} {P : Tree → Prop} {x : M α} {Q : α → Tree → Prop} {E : Tree → Prop}
    (h : ∀ i n, Run (QuietAt i n) (QuietAt i n) P x Q (fun _ => E) (fun _ => False)) : SafeQ P x Q E := by
  intro s hq hp
  have h1 := h s.inj s.n s ⟨hq, rfl, Nat.le_refl _⟩ hp
  revert h1
  cases x s with
  | ok a s' => exact fun h1 => ⟨h1.1.2.1, h1.1.2.2, h1.2⟩
  | err f s' => exact fun h1 => ⟨h1.1.2.1, h1.1.2.2, h1.2⟩
  | crash s' => exact id

theorem safeQ_getTree {P : Tree → Prop} {E : Tree → Prop} : SafeQ P getTree (fun a t => a = t ∧ P t) E :=
  safeQ_of_run (fun _ _ => Run.getTree)

section quiet
variable {i : Inj} {n : Nat} (cfg : Cfg)

theorem rollbackLoop_quiet {t0 tn : Tree} {l : List (Path × Path)} (h : Executed t0 l tn) (b0 : Bool) :
    Run (QuietAt i n) (QuietAt i n) (fun t => t = tn) (rollbackLoop cfg l.reverse b0)
      (fun b' t => t = t0 ∧ b' = b0) (fun _ _ => False) (fun _ => False) := by
  induction h with
  | nil => exact Run.pure b0 (fun t h => ⟨h, rfl⟩)
  | @snoc l tm tn a b _ hu hr ih =>
    obtain ⟨hgone, hback⟩ := hu.undo hr
    have hop : execOp tn (.rename b a false false) = .ok tm := by rw [execOp_rename_plain hgone, hback]
    rw [List.reverse_append]
    show Run _ _ _ (rollbackLoop cfg ((a, b) :: l.reverse) b0) _ _ _
    unfold rollbackLoop
    refine (logM_quiet cfg).bind (fun _ => ?_)
    refine Run.bind (Q := fun r t => t = tm ∧ r = none) ?_ (fun r => ?_)
    · refine (run_doOp_quiet (Q := fun _ t => t = tm) (E := fun _ _ => False) _ ?_ ?_).tryOp.weaken (fun _ h => h) ?_
      · intro t t' ht he
        rw [ht, hop] at he
        cases he
        rfl
      · intro t e ht he
        rw [ht, hop] at he
        cases he
      · intro r t h
        cases r with
        | none => exact ⟨h, rfl⟩
        | some e => exact h.elim
    · refine Run.assume (r = none) (fun _ h => h.2) (fun hrn => ?_)
      subst hrn
      rw [Option.isSome_none, Bool.or_false]
      exact ih.weaken (fun _ h => h.1) (fun _ _ h => h)

theorem rollbackM_quiet {t0 tn : Tree} {l : List (Path × Path)} (h : Executed t0 l tn) :
    Run (QuietAt i n) (QuietAt i n) (fun t => t = tn) (rollbackM cfg l) (fun _ t => t = t0) (fun _ _ => False)
      (fun _ => False) := by
  unfold rollbackM
  refine (logM_quiet cfg).bind (fun _ => (rollbackLoop_quiet cfg h false).bind (fun b => ?_))
  refine Run.assume (b = false) (fun _ h => h.2) (fun hb => ?_)
  subst hb
  exact (logM_quiet cfg).weaken (fun _ h => h.1) (fun _ _ h => h)

/-- with the truncating create (`File::create`), a file that a killed process left at the temp name — whatever it holds —
    never makes a later content edit fail -/
theorem replaceFile_leftover (f : Path) (c c' x : Bytes) (m mx : Nat) (hne : tmpPath f ≠ f) :
    Run (QuietAt i n) (QuietAt i n)
      (fun t => lookup t (tmpPath f) = some (.file x mx) ∧ lookup t f = some (.file c m) ∧
        parentOk t (tmpPath f) = .ok ())
      (replaceFileX false f c' m)
      (fun _ t => lookup t f = some (.file c' m) ∧ lookup t (tmpPath f) = none) (fun _ _ => False) (fun _ => False) := by
  have hfn : f ≠ tmpPath f := Ne.symm hne
  unfold replaceFileX
  refine Run.bind (Q := fun _ t => (∃ m1, lookup t (tmpPath f) = some (.file [] m1)) ∧ lookup t f = some (.file c m))
    (run_doOp_quiet _ ?_ ?_) (fun _ => ?_)
  · intro t t' ⟨_, hf, _⟩ he
    exact ⟨openw_at he, (frame_execOp rfl he f hfn).trans hf⟩
  · intro t e ⟨hl, _, hp⟩ he
    simp [execOp, hp, hl] at he
  refine Run.bind (Q := fun _ t => (∃ m1, lookup t (tmpPath f) = some (.file c' m1)) ∧ lookup t f = some (.file c m))
    ?_ (fun _ => ?_)
  · refine Run.writeAll (fun hc _ h => hc ▸ h) (run_doOp_quiet _ ?_ ?_)
    · intro t t' ⟨⟨m1, hl⟩, hf⟩ he
      exact ⟨⟨m1, write_at he hl⟩, (frame_execOp rfl he f hfn).trans hf⟩
    · intro t e ⟨⟨m1, hl⟩, _⟩ he
      simp [execOp, hl] at he
  refine Run.bind (Q := fun _ t => lookup t (tmpPath f) = some (.file c' m) ∧ lookup t f = some (.file c m))
    (run_doOp_quiet _ ?_ ?_) (fun _ => ?_)
  · intro t t' ⟨⟨m1, hl⟩, hf⟩ he
    exact ⟨chmod_at he hl, (frame_execOp rfl he f hfn).trans hf⟩
  · intro t e ⟨⟨m1, hl⟩, _⟩ he
    simp [execOp, hl] at he
  refine run_doOp_quiet _ ?_ ?_
  · intro t t' ⟨hl, hf⟩ he
    obtain ⟨_, hb, ha, _⟩ := rename_file_over_file hl hf hne he
    exact ⟨hb, ha⟩
  · intro t e ⟨hl, hf⟩ he
    simp [execOp, hl, hf, beq_false_of_ne hne] at he

end quiet

/-- the guard, decidable by running: as `revAlongB`, and the fault-free rename phase succeeds from `t` and no path
    carries a trailing slash -/
def phaseOkB : Tree → List (Path × Path) → List Ren → Bool
  | _, _, [] => true
  | t, perf, r :: rs =>
    !trailingSlash perf r.path && !trailingSlash perf r.newPath &&
    !(rebase perf r.path == rebase perf r.newPath) && (lookup t (rebase perf r.newPath)).isNone &&
    t.all (fun e => !pre (rebase perf r.newPath) e.1) &&
    (match rename t (rebase perf r.path) (rebase perf r.newPath) with
     | .ok t' => decide (parentOk t' (rebase perf r.path) = .ok ()) &&
                 phaseOkB t' (perf ++ [(r.path, rebase perf r.newPath)]) rs
     | .error _ => false)

theorem phaseOkB_cons {t : Tree} {perf : List (Path × Path)} {r : Ren} {rs : List Ren}
    (h : phaseOkB t perf (r :: rs) = true) :
    trailingSlash perf r.path = false ∧ trailingSlash perf r.newPath = false ∧
    Undoable t (rebase perf r.path) (rebase perf r.newPath) ∧
    ∃ t', rename t (rebase perf r.path) (rebase perf r.newPath) = .ok t' ∧
      phaseOkB t' (perf ++ [(r.path, rebase perf r.newPath)]) rs = true := by
  unfold phaseOkB at h
  cases hr : rename t (rebase perf r.path) (rebase perf r.newPath) with
  | error e => simp only [hr, Bool.and_false, Bool.false_eq_true] at h
  | ok t' =>
    simp only [hr, Bool.and_eq_true, Bool.not_eq_true', beq_eq_false_iff_ne, ne_eq, Option.isNone_iff_eq_none,
      List.all_eq_true, decide_eq_true_eq] at h
    obtain ⟨⟨⟨⟨⟨hs1, hs2⟩, _⟩, _⟩, hunder⟩, hpar, hrest⟩ := h
    exact ⟨hs1, hs2, ⟨hunder, fun t'' h' => by cases hr.symm.trans h'; exact hpar⟩, t', rfl, hrest⟩

/-- rollback_restores_paths at program level: with the pairs as executed and log errors out of the way, ONE injected
    failure anywhere in the rename phase — at a rename, at a log line — ends either normally or with the tree exactly as
    it was when the phase started -/
theorem renameLoop_pending (k : Nat) (e : Errno) (cfg : Cfg) (hlq : LogQuiet cfg) (t0 : Tree) :
    ∀ (rs : List Ren) (perf exec : List (Path × Path)) (tj : Tree),
      Executed t0 exec tj → phaseOkB tj perf rs = true →
      Run (Pending k e) (QuietAt (.fail k e) (k + 1)) (fun t => t = tj) (renameLoopF true cfg perf exec rs)
        (fun _ _ => True) (fun f t => f ≠ .panic ∧ t = t0) (fun _ => False) := by
  intro rs
  induction rs with
  | nil =>
    intro perf exec tj _ _
    exact Run.pure perf (fun _ _ => True.intro)
  | cons r rs ih =>
    intro perf exec tj hex hok
    obtain ⟨hs1, hs2, hu, t', hr, hrest⟩ := phaseOkB_cons hok
    unfold renameLoopF
    refine (Run.repeatM (logM_pending cfg hlq) _).bind (fun _ => ?_)
    dsimp only
    rw [hs1, hs2]
    refine Run.tryCatch_raise (Q := fun _ t => t = t') (E := fun f t => f ≠ .panic ∧ t = tj) ?_ ?_ ?_
      (fun _ h => absurd rfl h.1)
    · refine (logM_pending cfg hlq).bind (fun _ => run_doOp_pending _ ?_)
      intro t ht
      exact ⟨t', by rw [ht, execOp_rename_plain (free_of_under hu.under)]; exact hr, rfl⟩
    · exact (logM_pending (E := fun _ _ => False) cfg hlq).tryCatch_raise (ih _ _ t' (hex.snoc hu hr) hrest)
        (fun _ _ _ _ hp => hp.elim) (fun _ h => h.elim)
    · -- the injected failure fired at the rename (or its log line): roll back what was executed
      intro f hf
      refine (logM_quiet cfg).bind (fun _ => ?_)
      refine Run.bind (Q := fun _ t => t = t0) ?_ (fun _ => Run.throw f (fun _ h => ⟨hf, h⟩))
      exact ((rollbackM_quiet cfg hex).mono (fun _ _ h => h.elim) (fun _ h => h)).weaken
        (fun _ h => h.2) (fun _ _ h => h)

end ExecL
