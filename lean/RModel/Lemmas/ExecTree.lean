import RModel.Model.Exec
import RModel.Lemmas.RenamePhase
/-
  Trees under the calls of `Exec.execOp`, without any program of `Exec.M`; at the end, a list of executed renames
  (`Executed`) undone last first.
-/

namespace ExecL
open Fs Apply Exec RenamePhase

-- given outright: through the instances for `List` the search costs more than most of the proofs that need it
scoped instance : LawfulBEq Path := inferInstance

/-- the common shape of `setContent`, `setMode` and `putNode` -/
def mapAt (t : Tree) (p : Path) (g : Node → Node) : Tree :=
  t.map (fun e => (e.1, if e.1 == p then g e.2 else e.2))

def withMode (m : Nat) : Node → Node
  | .file c _ => .file c m
  | .dir _ => .dir m
  | n => n

theorem setContent_mapAt (t : Tree) (p : Path) (c : Bytes) : setContent t p c = mapAt t p (withContent c) := by
  apply List.map_congr_left
  intro e _
  cases e.1 == p
  · rfl
  · cases e.2 <;> rfl

theorem setMode_mapAt (t : Tree) (p : Path) (m : Nat) : setMode t p m = mapAt t p (withMode m) := by
  apply List.map_congr_left
  intro e _
  cases e.1 == p
  · rfl
  · cases e.2 <;> rfl

theorem putNode_mapAt (t : Tree) (b : Path) (n : Node) : putNode t b n = mapAt t b (fun _ => n) := by
  apply List.map_congr_left
  intro e _
  cases e.1 == b <;> rfl

theorem lookup_mapAt (t : Tree) (p : Path) (g : Node → Node) (q : Path) :
    lookup (mapAt t p g) q = if q = p then (lookup t q).map g else lookup t q := by
  unfold mapAt
  rw [lookup_map_node (fun k n => if k == p then g n else n)]
  by_cases h : q = p
  · rw [if_pos h, h]
    exact congrArg (fun g' => (lookup t p).map g') (funext fun n => if_pos (beq_iff_eq.2 rfl))
  · rw [if_neg h]
    cases lookup t q with
    | none => rfl
    | some nd => exact congrArg some (if_neg (by rw [beq_false_of_ne h]; exact Bool.false_ne_true))

def Frame (x : Path) (t t' : Tree) : Prop := ∀ q, q ≠ x → lookup t' q = lookup t q

theorem Frame.refl (x : Path) (t : Tree) : Frame x t t := fun _ _ => rfl

theorem frame_snoc (t : Tree) (p : Path) (n : Node) : Frame p t (t ++ [(p, n)]) := by
  intro q hq
  rw [lookup_snoc, if_neg (Ne.symm hq), Option.or_none]

theorem frame_mapAt (t : Tree) (p : Path) (g : Node → Node) : Frame p t (mapAt t p g) := by
  intro q hq
  rw [lookup_mapAt, if_neg hq]

theorem frame_removeKey (t : Tree) (p : Path) : Frame p t (removeKey t p) := by
  intro q hq
  rw [lookup_removeKey, if_neg hq]

theorem lookup_none_of_not_exists {t : Tree} {p : Path} (h : ¬ exists_ t p = true) : lookup t p = none := by
  cases hl : lookup t p with
  | none => rfl
  | some n => exact absurd (by unfold exists_; rw [hl]; exact Bool.or_true _) h

theorem mkdir_ok {t t' : Tree} {p : Path} (h : execOp t (.mkdir p) = .ok t') :
    lookup t p = none ∧ t' = t ++ [(p, .dir 0o755)] := by
  dsimp only [execOp] at h
  split at h
  · cases h
  · split at h
    · cases h
    · rename_i hne
      cases h
      exact ⟨lookup_none_of_not_exists hne, rfl⟩

theorem openw_ok {t t' : Tree} {p : Path} {tr ex : Bool} (h : execOp t (.openw p tr ex) = .ok t') :
    (lookup t p = none ∧ t' = t ++ [(p, .file [] 0o644)]) ∨
    ∃ c m, lookup t p = some (.file c m) ∧ t' = if tr then setContent t p [] else t := by
  dsimp only [execOp] at h
  split at h
  · cases h
  · split at h
    · rename_i hl
      split at h <;> cases h
      exact Or.inl ⟨hl, rfl⟩
    · rename_i c m hl
      split at h
      · cases h
      · refine Or.inr ⟨c, m, hl, ?_⟩
        cases tr <;> cases h <;> rfl
    · cases h
    · cases h

theorem write_ok {t t' : Tree} {p : Path} {c : Bytes} (h : execOp t (.write p c) = .ok t') :
    ∃ c0 m, lookup t p = some (.file c0 m) ∧ t' = setContent t p (c0 ++ c) := by
  dsimp only [execOp] at h
  split at h
  · rename_i c0 m hl; cases h; exact ⟨c0, m, hl, rfl⟩
  · cases h

theorem chmod_ok {t t' : Tree} {p : Path} {m : Nat} (h : execOp t (.chmod p m) = .ok t') : t' = setMode t p m := by
  dsimp only [execOp] at h
  split at h <;> cases h
  rfl

theorem unlink_ok {t t' : Tree} {p : Path} (h : execOp t (.unlink p) = .ok t') : t' = removeKey t p := by
  dsimp only [execOp] at h
  split at h <;> cases h
  rfl

theorem rmdir_ok {t t' : Tree} {p : Path} (h : execOp t (.rmdir p) = .ok t') : t' = removeKey t p := by
  dsimp only [execOp] at h
  split at h
  · cases h
  · split at h <;> cases h
    rfl
  · cases h

theorem link_ok {t t' : Tree} {a b : Path} (h : execOp t (.link a b) = .ok t') :
    ∃ c m, lookup t a = some (.file c m) ∧ lookup t b = none ∧ t' = t ++ [(b, .file c m)] := by
  dsimp only [execOp] at h
  split at h
  · rename_i c m hl
    split at h
    · cases h
    · split at h
      · cases h
      · rename_i hne; cases h; exact ⟨c, m, hl, lookup_none_of_not_exists hne, rfl⟩
  · cases h
  · cases h

/-- the one path at which a call other than `rename` can change the tree -/
def target : Op → Option Path
  | .mkdir p | .openw p _ _ | .write p _ | .chmod p _ | .unlink p | .rmdir p | .link _ p => some p
  | .rename .. | .logLine => none

theorem frame_execOp {t t' : Tree} {op : Op} {x : Path} (hx : target op = some x) (h : execOp t op = .ok t') :
    Frame x t t' := by
  cases op <;> cases hx
  case mkdir => rw [(mkdir_ok h).2]; exact frame_snoc _ _ _
  case openw =>
    rcases openw_ok h with ⟨_, rfl⟩ | ⟨_, _, _, rfl⟩
    · exact frame_snoc _ _ _
    · split
      · rw [setContent_mapAt]; exact frame_mapAt _ _ _
      · exact Frame.refl _ _
  case write => obtain ⟨_, _, _, rfl⟩ := write_ok h; rw [setContent_mapAt]; exact frame_mapAt _ _ _
  case chmod => rw [chmod_ok h, setMode_mapAt]; exact frame_mapAt _ _ _
  case unlink => rw [unlink_ok h]; exact frame_removeKey _ _
  case rmdir => rw [rmdir_ok h]; exact frame_removeKey _ _
  case link => obtain ⟨_, _, _, _, rfl⟩ := link_ok h; exact frame_snoc _ _ _

/-- only a `write` can be cut in the middle -/
theorem frame_partialOp (t : Tree) {op : Op} {x : Path} (hx : target op = some x) : Frame x t (partialOp t op) := by
  cases op with
  | write p c =>
    cases hx
    dsimp only [partialOp]
    split
    · exact Frame.refl _ _
    · split
      · exact frame_execOp rfl ‹_›
      · exact Frame.refl _ _
  | _ => exact Frame.refl _ _

theorem lookup_snoc_self {t : Tree} {p : Path} (n : Node) (h : lookup t p = none) :
    lookup (t ++ [(p, n)]) p = some n := by
  rw [lookup_snoc, h, if_pos rfl]; rfl

theorem lookup_snoc_other {t : Tree} {q : Path} {x : Node} (p : Path) (n : Node) (h : lookup t q = some x) :
    lookup (t ++ [(p, n)]) q = some x := by
  rw [lookup_snoc, h]; rfl

theorem openw_at {t t' : Tree} {p : Path} {ex : Bool} (h : execOp t (.openw p true ex) = .ok t') :
    ∃ m, lookup t' p = some (.file [] m) := by
  rcases openw_ok h with ⟨hl, rfl⟩ | ⟨c, m, hl, rfl⟩
  · exact ⟨_, lookup_snoc_self _ hl⟩
  · exact ⟨m, by rw [if_pos rfl, lookup_setContent, if_pos rfl, hl]; rfl⟩

theorem write_at {t t' : Tree} {p : Path} {c c0 : Bytes} {m : Nat} (h : execOp t (.write p c) = .ok t')
    (hl : lookup t p = some (.file c0 m)) : lookup t' p = some (.file (c0 ++ c) m) := by
  obtain ⟨c1, m1, hl1, rfl⟩ := write_ok h
  rw [hl] at hl1
  cases hl1
  rw [lookup_setContent, if_pos rfl, hl]; rfl

theorem chmod_at {t t' : Tree} {p : Path} {c : Bytes} {m m0 : Nat} (h : execOp t (.chmod p m) = .ok t')
    (hl : lookup t p = some (.file c m0)) : lookup t' p = some (.file c m) := by
  rw [chmod_ok h, setMode_mapAt, lookup_mapAt, if_pos rfl, hl]; rfl

theorem unlink_at {t t' : Tree} {p : Path} (h : execOp t (.unlink p) = .ok t') : lookup t' p = none := by
  rw [unlink_ok h, lookup_removeKey, if_pos rfl]

theorem partial_write_at {t : Tree} {p : Path} {c0 : Bytes} {m : Nat} (c : Bytes)
    (hl : lookup t p = some (.file c0 m)) :
    lookup (partialOp t (.write p c)) p = some (.file c0 m) ∨
    lookup (partialOp t (.write p c)) p = some (.file (c0 ++ c.take (c.length / 2)) m) := by
  dsimp only [partialOp]
  split
  · exact Or.inl hl
  · split
    · rename_i he
      exact Or.inr (write_at he hl)
    · exact Or.inl hl

theorem rename_file_over_file {t t' : Tree} {a b : Path} {c cb : Bytes} {m mb : Nat}
    (ha : lookup t a = some (.file c m)) (hb : lookup t b = some (.file cb mb)) (hab : a ≠ b)
    (h : execOp t (.rename a b false false) = .ok t') :
    t' = putNode (removeKey t a) b (.file c m) ∧
    lookup t' b = some (.file c m) ∧ lookup t' a = none ∧ ∀ q, q ≠ a → q ≠ b → lookup t' q = lookup t q := by
  simp only [execOp, ha, hb, Bool.or_self, Bool.false_eq_true, if_false, beq_false_of_ne hab] at h
  cases h
  refine ⟨rfl, ?_, ?_, fun q hqa hqb => ?_⟩
  · rw [putNode_mapAt, lookup_mapAt, if_pos rfl, lookup_removeKey, if_neg (Ne.symm hab), hb]; rfl
  · rw [putNode_mapAt, lookup_mapAt, if_neg hab, lookup_removeKey, if_pos rfl]
  · rw [putNode_mapAt, lookup_mapAt, if_neg hqb, lookup_removeKey, if_neg hqa]

def NodupKeys (t : Tree) : Prop := (t.map (·.1)).Nodup

theorem mapAt_of_lookup_none {t : Tree} {p : Path} (g : Node → Node) (h : lookup t p = none) : mapAt t p g = t :=
  (List.map_congr_left fun e he =>
    congrArg (Prod.mk e.1) (if_neg (mt beq_iff_eq.1 (lookup_eq_none.1 h e he)))).trans (List.map_id' t)

theorem removeKey_of_lookup_none {t : Tree} {p : Path} (h : lookup t p = none) : removeKey t p = t :=
  List.filter_eq_self.2 fun e he => by rw [beq_false_of_ne (lookup_eq_none.1 h e he)]; rfl

theorem mapAt_snoc {t : Tree} {p : Path} (n : Node) (g : Node → Node) (h : lookup t p = none) :
    mapAt (t ++ [(p, n)]) p g = t ++ [(p, g n)] := by
  have h1 := mapAt_of_lookup_none g h
  unfold mapAt at h1 ⊢
  rw [List.map_append, h1]
  show t ++ [(p, if p == p then g n else n)] = _
  rw [if_pos (beq_iff_eq.2 rfl)]

theorem removeKey_snoc {t : Tree} {p : Path} (n : Node) (h : lookup t p = none) : removeKey (t ++ [(p, n)]) p = t := by
  have h1 := removeKey_of_lookup_none h
  unfold removeKey at h1 ⊢
  rw [List.filter_append, h1, List.filter_cons, if_neg (by rw [beq_iff_eq.2 rfl]; exact Bool.false_ne_true)]
  exact List.append_nil t

theorem entry_of_lookup {t : Tree} {f : Path} {n : Node} (hn : NodupKeys t) (hl : lookup t f = some n) :
    ∀ e ∈ t, e.1 = f → e.2 = n := fun _ he hef =>
  Option.some.inj ((lookup_of_mem (List.pairwise_map.1 hn) he).symm.trans (hef ▸ hl))

theorem putNode_eq_setContent {t : Tree} {f : Path} {c : Bytes} {m : Nat} (c' : Bytes) (hn : NodupKeys t)
    (hl : lookup t f = some (.file c m)) : putNode t f (.file c' m) = setContent t f c' := by
  rw [setContent_mapAt, putNode_mapAt]
  apply List.map_congr_left
  intro e he
  by_cases hk : e.1 = f
  · rw [entry_of_lookup hn hl e he hk]; rfl
  · rw [if_neg (mt beq_iff_eq.1 hk), if_neg (mt beq_iff_eq.1 hk)]

theorem nodupKeys_setContent {t : Tree} (p : Path) (c : Bytes) (h : NodupKeys t) : NodupKeys (setContent t p c) := by
  unfold NodupKeys
  rw [keys_setContent]
  exact h

def nodes (t : Tree) : List Node := t.map (·.2)

/-- nothing altered, or something was overwritten (a strictly shorter tree — what the pre-flight of C05 excludes) -/
def NodesKept (orig : Tree) (t : Tree) : Prop := nodes t = nodes orig ∨ t.length < orig.length

theorem fsrename_keeps_or_shrinks {t t' : Tree} {a b : Path} (h : rename t a b = .ok t') :
    nodes t' = nodes t ∨ t'.length < t.length := by
  rcases (rename_ok h).2.2 with ⟨_, rfl⟩ | ⟨_, _, rfl⟩
  · exact Or.inl rfl
  · cases hlb : lookup t b with
    | none => rw [if_pos rfl]; exact Or.inl (List.map_map ..)
    | some nb =>
      rw [if_neg (Option.some_ne_none nb), List.length_map]
      exact Or.inr (removeKey_length_lt hlb)

theorem execOp_rename_free {t : Tree} {a b : Path} {sa sb : Bool} (h : lookup t b = none) :
    execOp t (.rename a b sa sb) = renameTS t a sa b sb := by
  simp only [execOp, h]
  cases lookup t a with
  | none => rfl
  | some n => cases n <;> rfl

theorem execOp_rename_plain {t : Tree} {a b : Path} (h : lookup t b = none) :
    execOp t (.rename a b false false) = rename t a b := by
  rw [execOp_rename_free h]
  rfl

theorem rename_keeps_or_shrinks {t t' : Tree} {a b : Path} {sa sb : Bool}
    (h : execOp t (.rename a b sa sb) = .ok t') : nodes t' = nodes t ∨ t'.length < t.length := by
  dsimp only [execOp] at h
  split at h
  · rename_i ha _
    cases hs : (sa || sb) <;> rw [hs] at h
    · cases hab : (a == b) <;> rw [hab] at h <;> cases h
      · exact Or.inr (by unfold putNode; rw [List.length_map]; exact removeKey_length_lt ha)
      · exact Or.inl rfl
    · cases h
  · unfold renameTS at h
    split at h
    · cases h
    · exact fsrename_keeps_or_shrinks h

theorem nodesKept_rename {orig t t' : Tree} {a b : Path} {sa sb : Bool} (hi : NodesKept orig t)
    (h : execOp t (.rename a b sa sb) = .ok t') : NodesKept orig t' := by
  have hlen : ∀ {u v : Tree}, nodes u = nodes v → u.length = v.length := fun hn => by
    simpa [nodes] using congrArg List.length hn
  rcases rename_keeps_or_shrinks h, hi with ⟨h2 | h2, h1 | h1⟩
  · exact Or.inl (h2.trans h1)
  · exact Or.inr (hlen h2 ▸ h1)
  · exact Or.inr (hlen h1 ▸ h2)
  · exact Or.inr (Nat.lt_trans h2 h1)

theorem rename_free_ok {t t' : Tree} {a b : Path} (h : rename t a b = .ok t') (hfree : lookup t b = none) :
    (∃ na, lookup t a = some na) ∧ a ≠ b ∧ pre a b = false ∧ t' = t.map (fun e => (subst a b e.1, e.2)) := by
  obtain ⟨⟨na, hla⟩, -, ⟨rfl, _⟩ | ⟨hab, hpre, ht'⟩⟩ := rename_ok h
  · rw [hfree] at hla
    cases hla
  · rw [if_pos hfree] at ht'
    exact ⟨⟨na, hla⟩, hab, hpre, ht'⟩

theorem subst_cases (a b q : Path) :
    (∃ r, q = a ++ r ∧ subst a b q = b ++ r) ∨ (pre a q = false ∧ subst a b q = q) := by
  cases hq : pre a q with
  | true =>
    obtain ⟨r, rfl⟩ := pre_iff.1 hq
    exact Or.inl ⟨r, rfl, subst_append a b r⟩
  | false => exact Or.inr ⟨rfl, subst_of_not_pre hq⟩

theorem subst_ne_src {a b : Path} (hba : pre b a = false) (q : Path) : subst a b q ≠ a := by
  intro h
  rcases subst_cases a b q with ⟨r, rfl, hs⟩ | ⟨hq, hs⟩
  · rw [← h, hs, pre_append] at hba
    cases hba
  · rw [← hs, h, pre_refl] at hq
    cases hq

theorem subst_eq_dst {a b q : Path} (hbq : pre b q = false) (h : subst a b q = b) : q = a := by
  rcases subst_cases a b q with ⟨r, rfl, hs⟩ | ⟨_, hs⟩
  · rw [hs] at h
    rw [List.append_right_eq_self.1 h, List.append_nil]
  · rw [← hs, h, pre_refl] at hbq
    cases hbq

theorem subst_subst {a b q : Path} (hbq : pre b q = false) : subst b a (subst a b q) = q := by
  rcases subst_cases a b q with ⟨r, rfl, hs⟩ | ⟨_, hs⟩
  · rw [hs, subst_append]
  · rw [hs, subst_of_not_pre hbq]

theorem free_of_under {t : Tree} {b : Path} (hunder : ∀ e ∈ t, pre b e.1 = false) : lookup t b = none := by
  cases hl : lookup t b with
  | none => rfl
  | some n =>
    obtain ⟨e, he, hk⟩ := mem_of_lookup_some hl
    have := hunder e he
    rw [hk, pre_refl] at this
    cases this

theorem rename_src_gone {t t' : Tree} {a b : Path} (h : rename t a b = .ok t')
    (hunder : ∀ e ∈ t, pre b e.1 = false) : lookup t' a = none := by
  obtain ⟨⟨na, hla⟩, _, _, rfl⟩ := rename_free_ok h (free_of_under hunder)
  obtain ⟨ea, hea, heak⟩ := mem_of_lookup_some hla
  exact lookup_map_none _ _ _ (fun e _ => subst_ne_src (heak ▸ hunder ea hea) e.1)

theorem rename_inverse {t t' : Tree} {a b : Path} (h : rename t a b = .ok t')
    (hunder : ∀ e ∈ t, pre b e.1 = false) (hpar : parentOk t' a = .ok ()) : rename t' b a = .ok t := by
  have hgone := rename_src_gone h hunder
  obtain ⟨⟨na, hla⟩, hab, _, rfl⟩ := rename_free_ok h (free_of_under hunder)
  obtain ⟨ea, hea, heak⟩ := mem_of_lookup_some hla
  have hba : pre b a = false := heak ▸ hunder ea hea
  have hlb := lookup_map_inj (subst a b) t a
    (fun e he hEq => subst_eq_dst (hunder e he) (hEq.trans (subst_same a b)))
  rw [subst_same, hla] at hlb
  simp only [rename, hlb, hpar, beq_false_of_ne (Ne.symm hab), Bool.false_eq_true, if_false, hba, hgone]
  rw [List.map_map]
  exact congrArg Except.ok ((List.map_congr_left fun e he =>
    show (subst b a (subst a b e.1), e.2) = e from Prod.ext (subst_subst (hunder e he)) rfl).trans (List.map_id' t))

def execAll : Tree → List (Path × Path) → Option Tree
  | t, [] => some t
  | t, (a, b) :: rest =>
    match rename t a b with
    | .ok t' => execAll t' rest
    | .error _ => none

/-- the guard of the rollback theorem, decidable by running; all true when the pre-flight passed on a well-formed
    tree -/
def revAlongB : Tree → List (Path × Path) → Bool
  | _, [] => true
  | t, (a, b) :: rest =>
    !(a == b) && (lookup t b).isNone && t.all (fun e => !pre b e.1) &&
    (match rename t a b with
     | .ok t' => decide (parentOk t' a = .ok ()) && revAlongB t' rest
     | .error _ => true)

def RevAlong (t : Tree) (l : List (Path × Path)) : Prop := revAlongB t l = true

/-- what the guard asks of one rename, as far as it is needed -/
structure Undoable (t : Tree) (a b : Path) : Prop where
  under : ∀ e ∈ t, pre b e.1 = false
  parent : ∀ t', rename t a b = .ok t' → parentOk t' a = .ok ()

theorem Undoable.undo {t t' : Tree} {a b : Path} (hu : Undoable t a b) (h : rename t a b = .ok t') :
    lookup t' a = none ∧ rename t' b a = .ok t :=
  ⟨rename_src_gone h hu.under, rename_inverse h hu.under (hu.parent _ h)⟩

inductive Executed (t0 : Tree) : List (Path × Path) → Tree → Prop
  | nil : Executed t0 [] t0
  | snoc {l : List (Path × Path)} {tm tn : Tree} {a b : Path} : Executed t0 l tm → Undoable tm a b →
      rename tm a b = .ok tn → Executed t0 (l ++ [(a, b)]) tn

theorem Executed.cons {t t1 tn : Tree} {a b : Path} {l : List (Path × Path)} (hu : Undoable t a b)
    (hr : rename t a b = .ok t1) (h : Executed t1 l tn) : Executed t ((a, b) :: l) tn := by
  induction h with
  | nil => exact Executed.snoc .nil hu hr
  | snoc _ hu' hr' ih => exact Executed.snoc ih hu' hr'

theorem executed_of_guard {l : List (Path × Path)} : ∀ {t tn : Tree}, execAll t l = some tn → RevAlong t l →
    Executed t l tn := by
  induction l with
  | nil => intro t tn hex _; cases hex; exact .nil
  | cons x rest ih =>
    obtain ⟨a, b⟩ := x
    intro t tn hex hg
    unfold execAll at hex
    unfold RevAlong revAlongB at hg
    cases hr : rename t a b with
    | error e => rw [hr] at hex; cases hex
    | ok t1 =>
      rw [hr] at hex
      simp only [hr, Bool.and_eq_true, Bool.not_eq_true', beq_eq_false_iff_ne, ne_eq, Option.isNone_iff_eq_none,
        List.all_eq_true, decide_eq_true_eq] at hg
      obtain ⟨⟨_, hunder⟩, hpar, hrest⟩ := hg
      exact .cons ⟨hunder, fun t' h' => by cases hr.symm.trans h'; exact hpar⟩ hr (ih hex hrest)

/-- the executed renames, reverted last first, restore the tree exactly (nested directories included) -/
theorem rollback_restores {t tn : Tree} {l : List (Path × Path)} (h : Executed t l tn) :
    Apply.rollback tn l.reverse none = (t, none) := by
  induction h with
  | nil => rfl
  | snoc _ hu hr ih =>
    rw [List.reverse_append]
    simp only [List.reverse_cons, List.reverse_nil, List.nil_append, List.singleton_append, Apply.rollback,
      (hu.undo hr).2]
    exact ih

end ExecL
