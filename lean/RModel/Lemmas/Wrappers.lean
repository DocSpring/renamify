import RModel.Model.Wrappers
import RModel.Lemmas.ListFacts
/-
  `Wrap.okFor` in a form that is cheaper to evaluate.  `untouched` fetches the value of every argument of the subcommand
  from the parse result with `lookup`, a search through the result table by id.  `Cli.parsedOf` lists the values in the
  order of the argument list, so `untouchedF` walks argument list and table side by side; where the two do not line up it
  falls back on `lookup`, so that `okFor_eq` holds for every grammar and every parse result.  (`Cli.seq_iff`: `seq` decides
  equality of its strings.)
-/
namespace Cli

theorem seq_iff : ∀ {a b : Str}, seq a b = true ↔ a = b
  | [], [] => by simp [seq]
  | [], _ :: _ => by simp [seq]
  | _ :: _, [] => by simp [seq]
  | x :: a, y :: b => by simp [seq, seq_iff (a := a) (b := b)]

end Cli

namespace Wrap
open Cli

theorem lookup_cons (e : Str × Val) (r : List (Str × Val)) (id : Str) :
    lookup (e :: r) id = if seq e.1 id then some e.2 else lookup r id := by
  unfold lookup
  rw [List.find?_cons]
  cases seq e.1 id <;> rfl

theorem lookup_append {pre : List (Str × Val)} {id : Str} (h : ∀ e ∈ pre, seq e.1 id = false) (t : List (Str × Val)) :
    lookup (pre ++ t) id = lookup t id := by
  unfold lookup
  rw [List.find?_append, List.find?_eq_none.mpr fun e he => by simp [h e he], Option.none_or]

section walk
variable (poss : List Arg) (es : List Expect) (T : List (Str × Val)) (keep : Arg → Bool)

/-- the test `untouched` makes of argument `a`, given its value in the parse result -/
def argFree (a : Arg) (ov : Option Val) : Bool :=
  isAuto a || es.any (targets poss a) ||
    (match ov with
     | some v => valEq v (valueOf a [])
     | none => false)

/-- the arguments among `as` that `keep` selects hold their defaults in table `T` or are spoken for -/
def freeIn (as : List Arg) : Bool :=
  as.all fun a => !keep a || argFree poss es a (lookup T a.id)

theorem freeIn_cons (a : Arg) (as : List Arg) :
    freeIn poss es T keep (a :: as) = ((!keep a || argFree poss es a (lookup T a.id)) && freeIn poss es T keep as) :=
  rfl

/-- `freeIn` when `t`, the part of `T` not yet consumed, lists the values of the non-auto arguments of `as` in order.
    The comparison with the default comes first: it settles most arguments, and `targets` is the dearer test. -/
def freeWalk : List Arg → List (Str × Val) → Bool
  | [], _ => true
  | a :: as, t =>
    if isAuto a then freeWalk as t
    else match t with
      | (k, v) :: t' =>
        if seq k a.id then (!keep a || valEq v (valueOf a []) || es.any (targets poss a)) && freeWalk as t'
        else freeIn poss es T keep (a :: as)
      | [] => freeIn poss es T keep (a :: as)

def distinct : List Str → Bool
  | [] => true
  | x :: xs => !(xs.any (seq x)) && distinct xs

theorem freeWalk_append : ∀ (as : List Arg) (pre t : List (Str × Val)), (∀ e ∈ pre, ∀ a ∈ as, seq e.1 a.id = false) →
    distinct (as.map (·.id)) = true → freeWalk poss es (pre ++ t) keep as t = freeIn poss es (pre ++ t) keep as
  | [], _, _, _, _ => rfl
  | a :: as, pre, t, hpre, hd => by
    have hd : (∀ a' ∈ as, seq a.id a'.id = false) ∧ distinct (as.map (·.id)) = true := by simpa [distinct] using hd
    have hrest := fun e he a' ha' => hpre e he a' (List.mem_cons_of_mem a ha')
    unfold freeWalk
    split
    · next hauto =>
      rw [freeWalk_append as pre t hrest hd.2, freeIn_cons]
      simp [argFree, hauto]
    · next hauto =>
      split
      · next k v t' =>
        split
        · next hk =>
          -- the value found by `lookup` is the head of `t`: no key of `pre` is `a.id`
          have hv : lookup (pre ++ (k, v) :: t') a.id = some v := by
            rw [lookup_append fun e he => hpre e he a (List.mem_cons_self ..), lookup_cons, if_pos hk]
          have hnext : ∀ e ∈ pre ++ [(k, v)], ∀ a' ∈ as, seq e.1 a'.id = false := by
            intro e he a' ha'
            rcases List.mem_append.mp he with he | he
            · exact hrest e he a' ha'
            · rw [List.mem_singleton.mp he, seq_iff.mp hk]
              exact hd.1 a' ha'
          have ih := freeWalk_append as (pre ++ [(k, v)]) t' hnext hd.2
          rw [← List.append_cons] at ih
          rw [ih, freeIn_cons, hv]
          simp [argFree, hauto, Bool.or_comm, Bool.or_left_comm]
        · rfl
      · rfl

theorem freeWalk_eq (as : List Arg) (t : List (Str × Val)) (hd : distinct (as.map (·.id)) = true) :
    freeWalk poss es t keep as t = freeIn poss es t keep as :=
  freeWalk_append poss es keep as [] t (by simp) hd

end walk

/-- `untouched`, reading the parse result by `freeWalk` where the ids of the grammar are pairwise distinct -/
def untouchedF (g : Grammar) (p : Parsed) (es : List Expect) : Bool :=
  match findSub g.subs p.sub with
  | none => false
  | some c =>
    if distinct (c.args.map (·.id)) && distinct (g.top.map (·.id)) then
      freeWalk (positionals c.args) es p.args (fun _ => true) c.args p.args &&
      freeWalk (positionals c.args) es p.top (fun a => a.global && !(c.args.any fun b => seq b.id a.id)) g.top p.top
    else untouched g p es

/-- `subArgs g c` is the subcommand's own arguments (their values are in `p.args`), the globals it does not shadow (in
    `p.top`) and `helpArg` (auto, so it passes); each of the first two segments is one walk. -/
theorem untouched_eq (g : Grammar) (p : Parsed) (es : List Expect) : untouched g p es = untouchedF g p es := by
  unfold untouchedF
  split
  · next h => simp only [untouched, h]
  · next c h =>
    split
    · next hd =>
      rw [Bool.and_eq_true] at hd
      rw [freeWalk_eq _ _ _ _ _ hd.1, freeWalk_eq _ _ _ _ _ hd.2]
      simp only [untouched, h, subArgs, List.all_append, List.all_filter]
      have hown : ∀ a ∈ c.args, valIn c p a = lookup p.args a.id := fun a ha =>
        if_pos (List.any_eq_true.mpr ⟨a, ha, seq_iff.mpr rfl⟩)
      have htop : ∀ a, (a.global && !c.args.any fun b => seq b.id a.id) = true → valIn c p a = lookup p.top a.id := by
        intro a hk
        rw [Bool.and_eq_true, Bool.not_eq_true'] at hk
        rw [valIn, hk.2]
        rfl
      rw [show ([helpArg].all _) = true from rfl, Bool.and_true]
      congr 1
      · exact List.all_congr_mem fun a ha => by rw [hown a ha]; rfl
      · refine List.all_congr rfl fun a => ?_
        dsimp only
        cases hk : a.global && !c.args.any fun b => seq b.id a.id
        · rfl
        · rw [htop a hk]
          rfl
    · rfl

def okForF (g : Grammar) (b : Builder) (v : Valuation) : Bool :=
  match accepts g (build b v) with
  | .ok p => (intent b v).all (holds g p) && untouchedF g p (intent b v)
  | .error _ => false

theorem okFor_eq (g : Grammar) (b : Builder) (v : Valuation) : okFor g b v = okForF g b v := by
  unfold okFor okForF
  cases accepts g (build b v) with
  | ok p => simp only [means, untouched_eq]
  | error _ => rfl

end Wrap
