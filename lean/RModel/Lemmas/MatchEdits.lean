import RModel.Model.Matcher
import RModel.Model.Edits
import RModel.Model.Hunks
/- helper lemmas for C03: matches as edit lists, the per-variant counters, de-duplication of walker entries over several
   search roots -/

theorem List.Pairwise.eq_of_key_eq {α β} {f : α → β} {l : List α} (h : l.Pairwise (fun a b => f a ≠ f b)) :
    ∀ a ∈ l, ∀ b ∈ l, f a = f b → a = b := by
  induction l with
  | nil => nofun
  | cons x xs ih =>
    obtain ⟨hx, hxs⟩ := List.pairwise_cons.mp h
    intro a ha b hb hab
    rcases List.mem_cons.mp ha with rfl | ha' <;> rcases List.mem_cons.mp hb with rfl | hb'
    · rfl
    · exact absurd hab (hx b hb')
    · exact absurd hab.symm (hx a ha')
    · exact ih hxs a ha' b hb' hab

namespace C03
open Matcher Hunks

def toEdits (repl : Match → Bytes) (ms : List Match) : List Edits.Edit :=
  ms.map (fun m => { before := m.text, after := repl m, start := m.start, stop := m.stop })

theorem consistent_of_sorted (c : Bytes) (repl : Match → Bytes) (ms : List Match) (off : Nat)
    (hoff : off ≤ c.length)
    (hlo : ∀ m ∈ ms, off ≤ m.start)
    (hsorted : ms.Pairwise (fun a b => a.stop ≤ b.start))
    (hP : ∀ m ∈ ms, m.start ≤ m.stop ∧ m.stop ≤ c.length ∧ Edits.isCharBoundary c m.start = true ∧
      Edits.isCharBoundary c m.stop = true ∧ (c.take m.stop).drop m.start = m.text ∧
      (∀ b, (repl m).head? = some b → Edits.isCont b = false)) :
    Edits.Consistent c off (toEdits repl ms) := by
  induction ms generalizing off with
  | nil => exact hoff
  | cons m ms ih =>
    obtain ⟨p1, p2, p3, p4, p5, p6⟩ := hP m List.mem_cons_self
    obtain ⟨s1, s2⟩ := List.pairwise_cons.mp hsorted
    exact ⟨hlo m List.mem_cons_self, p1, p2, p3, p4, p5, p6,
      ih m.stop p2 s1 s2 fun x hx => hP x (List.mem_cons_of_mem _ hx)⟩

theorem totalOf_bump (v : Bytes) : ∀ t : List (Bytes × Nat), totalOf (bump v t) = totalOf t + 1
  | [] => rfl
  | (k, n) :: rest => by
    rw [bump]
    split
    · show n + 1 + totalOf rest = n + totalOf rest + 1
      exact Nat.add_right_comm n 1 _
    · show n + totalOf (bump v rest) = n + totalOf rest + 1
      rw [totalOf_bump v rest, Nat.add_assoc]

theorem totalOf_foldl (vs : List Bytes) (acc : List (Bytes × Nat)) :
    totalOf (vs.foldl (fun acc v => bump v acc) acc) = totalOf acc + vs.length := by
  induction vs generalizing acc with
  | nil => simp
  | cons v vs ih => simp only [List.foldl_cons, ih, totalOf_bump, List.length_cons]; omega

end C03

namespace Hunks

theorem dedupAux_mem {α} (seen : List Bytes) (es : List (Bytes × α)) :
    ∀ e ∈ dedupAux seen es, e ∈ es ∧ e.1 ∉ seen := by
  induction es generalizing seen with
  | nil => nofun
  | cons x xs ih =>
    intro e h
    rw [dedupAux] at h
    split at h
    · exact (ih seen e h).imp_left (List.mem_cons_of_mem _)
    · next hx =>
      rcases List.mem_cons.mp h with rfl | h
      · exact ⟨List.mem_cons_self, hx⟩
      · obtain ⟨h1, h2⟩ := ih (x.1 :: seen) e h
        exact ⟨List.mem_cons_of_mem _ h1, fun hm => h2 (List.mem_cons_of_mem _ hm)⟩

theorem dedupAux_pairwise {α} (seen : List Bytes) (es : List (Bytes × α)) :
    (dedupAux seen es).Pairwise (fun a b => a.1 ≠ b.1) := by
  induction es generalizing seen with
  | nil => exact List.Pairwise.nil
  | cons x xs ih =>
    rw [dedupAux]
    split
    · exact ih seen
    · exact List.pairwise_cons.mpr
        ⟨fun b hb heq => (dedupAux_mem (x.1 :: seen) xs b hb).2 (heq ▸ List.mem_cons_self), ih (x.1 :: seen)⟩

/-- every file the walker reached is still planned -/
theorem dedupAux_complete {α} (seen : List Bytes) (es : List (Bytes × α)) :
    ∀ e ∈ es, e.1 ∉ seen → ∃ e' ∈ dedupAux seen es, e'.1 = e.1 := by
  induction es generalizing seen with
  | nil => nofun
  | cons x xs ih =>
    intro e he hs
    rw [dedupAux]
    split
    · next hx =>
      rcases List.mem_cons.mp he with rfl | he
      · exact absurd hx hs
      · exact ih seen e he hs
    · by_cases hk : e.1 = x.1
      · exact ⟨x, List.mem_cons_self, hk.symm⟩
      · obtain ⟨e', h1, h2⟩ := ih (x.1 :: seen) e ((List.mem_cons.mp he).resolve_left fun h => hk (h ▸ rfl))
          fun hm => (List.mem_cons.mp hm).elim hk hs
        exact ⟨e', List.mem_cons_of_mem _ h1, h2⟩

end Hunks
