import RModel.Lemmas.HistoryStatus
/- the invariant behind `C10.refines_spec_partial` and its preservation by every guarded command -/

namespace History
open HistorySpec

section
variable {Tree Plan Backup H : Type} [DecidableEq H]

def OpsKept (s s' : Spec Tree H) : Prop :=
  ∀ r o, find s r = some o → ∃ o', find s' r = some o' ∧ o'.pre = o.pre ∧ o'.post = o.post

theorem opsKept_push (s : Spec Tree H) (r : EId H) (pre post : Tree) : OpsKept s (push s r pre post) :=
  fun x o h => ⟨o, by rw [find_push, h]; rfl, rfl, rfl⟩

theorem opsKept_setApplied (s : Spec Tree H) (r : EId H) (b : Bool) : OpsKept s (setApplied s r b) :=
  fun x o h => ⟨_, by rw [find_setApplied, h]; rfl, by dsimp only; split <;> rfl, by dsimp only; split <;> rfl⟩

theorem mem_setApplied (s : Spec Tree H) (r : EId H) (b : Bool) (o' : Op Tree H) (h : o' ∈ setApplied s r b) :
    ∃ o ∈ s, o'.root = o.root := by
  obtain ⟨o, ho, rfl⟩ := List.mem_map.1 h
  exact ⟨o, ho, by split <;> rfl⟩

structure Inv (ops : Ops Tree Plan Backup H) (w : World Tree Plan Backup H) (s : Spec Tree H) : Prop where
  stored : ∀ e ∈ w.entries, e.revertOf = none → ∃ o p b, find s e.id.root = some o ∧ lookup w.plans e.id = some p ∧
    lookup w.backups e.id = some b ∧ ops.apply o.pre p = .ok o.post b
  roots : ∀ o ∈ s, hasId w.entries o.root = true ∧ ∃ h, o.root = .plan h
  revForm : ∀ e ∈ w.entries, ∀ j c, e.id = .revert j c → e.revertOf = some j
  revOnly : ∀ e ∈ w.entries, ∀ j, e.revertOf = some j → ∃ c, e.id = .revert j c
  backupsIds : ∀ i, lookup w.backups i ≠ none → hasId w.entries i = true
  status : Status w.entries s

theorem inv_init (ops : Ops Tree Plan Backup H) (t : Tree) (clock : Nat) :
    Inv ops (init t clock : World Tree Plan Backup H) ([] : Spec Tree H) where
  stored := by intro e he; simp [init] at he
  roots := by intro o ho; simp at ho
  revForm := by intro e he; simp [init] at he
  revOnly := by intro e he; simp [init] at he
  backupsIds := by intro i h; simp [init, lookup] at h
  status := by simpa [init] using (status_init : Status ([] : List (Entry H)) ([] : Spec Tree H))

variable (cfg : Cfg) {ops : Ops Tree Plan Backup H} {w : World Tree Plan Backup H} {s s' : Spec Tree H}

theorem inv_stored_opsKept (hI : Inv ops w s) (hkeeps : OpsKept s s') (e : Entry H) (he : e ∈ w.entries)
    (hrev : e.revertOf = none) :
    ∃ o p b, find s' e.id.root = some o ∧ lookup w.plans e.id = some p ∧ lookup w.backups e.id = some b ∧
      ops.apply o.pre p = .ok o.post b := by
  obtain ⟨o, p, b, h1, h2, h3, h4⟩ := hI.stored e he hrev
  obtain ⟨o', k1, k2, k3⟩ := hkeeps _ o h1
  exact ⟨o', p, b, k1, h2, h3, by rw [k2, k3]; exact h4⟩

theorem inv_applied (hI : Inv ops w s) {id : EId H} {p : Plan} {b : Backup} (t' : Tree)
    (hfresh : hasId w.entries id = false) (hid : ∀ j c, id ≠ .revert j c) (hkeeps : OpsKept s s')
    (hroots : ∀ o' ∈ s', (∃ o ∈ s, o'.root = o.root) ∨ (o'.root = id ∧ ∃ h, id = .plan h))
    (hop : ∃ o', find s' id.root = some o' ∧ ops.apply o'.pre p = .ok o'.post b)
    (hst : Status (w.entries ++ [{ id := id, revertOf := none }]) s') :
    Inv ops { clock := w.clock, tree := t', entries := w.entries ++ [{ id := id, revertOf := none }],
              plans := put w.plans id p, backups := put w.backups id b } s' := by
  have hnew : hasId (w.entries ++ [{ id := id, revertOf := none }]) id = true := by rw [hasId_append]; simp
  refine ⟨List.forall_mem_snoc (fun e he hrev => ?_) (fun _ => ?_), fun o' ho' => ?_,
    List.forall_mem_snoc hI.revForm (fun j c hj => absurd hj (hid j c)), List.forall_mem_snoc hI.revOnly nofun,
    fun i hi => ?_, hst⟩
  · have hne : e.id ≠ id := fun hh => by rw [← hh, (hasId_iff _ _).2 ⟨e, he, rfl⟩] at hfresh; cases hfresh
    rw [show lookup (put w.plans id p) e.id = _ from lookup_put_other hne,
      show lookup (put w.backups id b) e.id = _ from lookup_put_other hne]
    exact inv_stored_opsKept hI hkeeps e he hrev
  · obtain ⟨o', k1, k2⟩ := hop
    exact ⟨o', p, b, k1, lookup_put_same _ _ _, lookup_put_same _ _ _, k2⟩
  · rcases hroots o' ho' with ⟨o, ho, hr⟩ | ⟨hr, hpl⟩ <;> rw [hr]
    · exact ⟨hasId_append_left (hI.roots o ho).1, (hI.roots o ho).2⟩
    · exact ⟨hnew, hpl⟩
  · by_cases hii : i = id
    · rw [hii]; exact hnew
    · rw [lookup_put_other hii] at hi
      exact hasId_append_left (hI.backupsIds i hi)

theorem inv_reverted (hI : Inv ops w s) (i : EId H) (c : Nat) (t' : Tree) (hkeeps : OpsKept s s')
    (hroots : ∀ o' ∈ s', ∃ o ∈ s, o'.root = o.root)
    (hst : Status (w.entries ++ [{ id := .revert i c, revertOf := some i }]) s') :
    Inv ops { w with tree := t', entries := w.entries ++ [{ id := .revert i c, revertOf := some i }] } s' := by
  refine ⟨List.forall_mem_snoc (inv_stored_opsKept hI hkeeps) nofun, fun o' ho' => ?_,
    List.forall_mem_snoc hI.revForm (fun j c hj => by cases hj; rfl),
    List.forall_mem_snoc hI.revOnly (fun j hj => by cases hj; exact ⟨_, rfl⟩),
    fun k hk => hasId_append_left (hI.backupsIds k hk), hst⟩
  obtain ⟨o, ho, hr⟩ := hroots o' ho'
  rw [hr]; exact ⟨hasId_append_left (hI.roots o ho).1, (hI.roots o ho).2⟩

variable (ops) (w) (s)

theorem conforms_unchanged (c : Cmd H)
    (hk : (step cfg ops w c).2 ≠ .ok) (ht : (step cfg ops w c).1.tree = w.tree)
    (he : (step cfg ops w c).1.entries = w.entries) : Conforms cfg ops w s c := by
  cases c with
  | tick => exact ⟨ht, he⟩
  | rename _ _ => exact Or.inr ⟨hk, ht, he⟩
  | undo _ => exact Or.inr ⟨hk, ht, he⟩
  | redo _ => exact Or.inr ⟨hk, ht, he⟩

theorem conforms_ok_or_unchanged (c : Cmd H) (h : Conforms cfg ops w s c) :
    (step cfg ops w c).2 = .ok ∨ ((step cfg ops w c).1.tree = w.tree ∧ (step cfg ops w c).1.entries = w.entries) := by
  cases c with
  | tick => exact Or.inr h
  | rename _ _ => exact h.imp And.left And.right
  | undo _ => exact h.imp And.left And.right
  | redo _ => exact h.imp And.left And.right

theorem specStep_not_ok (c : Cmd H) (hk : (step cfg ops w c).2 ≠ .ok) : specStep cfg ops s w c = s :=
  if_neg hk

theorem inv_unchanged (c : Cmd H) (hI : Inv ops w s) {o : Outcome} (ho : o ≠ .ok) (heq : step cfg ops w c = (w, o)) :
    Conforms cfg ops w s c ∧ Inv ops (step cfg ops w c).1 (specStep cfg ops s w c) := by
  have hk : (step cfg ops w c).2 ≠ .ok := by rw [heq]; exact ho
  rw [specStep_not_ok cfg ops w s c hk]
  exact ⟨conforms_unchanged cfg ops w s c hk (by rw [heq]) (by rw [heq]), by rw [heq]; exact hI⟩

variable [DecidableEq Tree]

theorem G10_undo {t : Target H} {i : EId H} (hG : G10 ops w s (.undo t) = true)
    (hr : resolve w.entries true t = some i) (hel : undoEligible w.entries i = true) :
    ∃ o, find s i.root = some o ∧ w.tree = o.post := by
  simp only [G10, hr, hel, Bool.not_true, Bool.false_or] at hG
  split at hG
  · exact ⟨_, ‹_›, of_decide_eq_true hG⟩
  · cases hG

theorem G10_redo {t : Target H} {i : EId H} (hG : G10 ops w s (.redo t) = true)
    (hr : resolve w.entries false t = some i) (hel : redoEligible w.entries i = true) :
    ∃ o, find s i.root = some o ∧ w.tree = o.pre := by
  simp only [G10, hr, hel, Bool.not_true, Bool.false_or] at hG
  split at hG
  · exact ⟨_, ‹_›, of_decide_eq_true hG⟩
  · cases hG

theorem inv_rename (hE : cfg.earlyDupCheck = true) (se re : Bytes) (hI : Inv ops w s)
    (hG : G10 ops w s (.rename se re) = true) :
    Conforms cfg ops w s (.rename se re) ∧
      Inv ops (step cfg ops w (.rename se re)).1 (specStep cfg ops s w (.rename se re)) := by
  have hstep : step cfg ops w (.rename se re) = stepRename cfg ops w se re := rfl
  by_cases he : ops.isEmpty (ops.scan w.tree se re) = true
  · exact inv_unchanged cfg ops w s _ hI (o := .noop) (by decide) (by rw [hstep]; simp [stepRename, he])
  cases hdup : hasId w.entries (.plan (ops.hash (se ++ re) w.clock)) with
  | true =>
    exact inv_unchanged cfg ops w s _ hI (o := .rejected) (by decide)
      (by rw [hstep]; simp [stepRename, he, applyWithId_dup cfg ops w hE _ _ hdup])
  | false =>
  cases ha : ops.apply w.tree (ops.scan w.tree se re) with
  | rejected =>
    exact inv_unchanged cfg ops w s _ hI (o := .rejected) (by decide)
      (by rw [hstep]; simp [stepRename, he, applyWithId, ha])
  | partly t' => simp [G10, he, hdup, ha, isPartly] at hG
  | ok t' b =>
    have hb : lookup w.backups (.plan (ops.hash (se ++ re) w.clock)) = none := Classical.byContradiction fun hl => by
      rw [hI.backupsIds _ hl] at hdup; cases hdup
    have heq := (show stepRename cfg ops w se re = applyWithId cfg ops w _ _ by simp [stepRename, he]).trans
      (applyWithId_ok cfg ops w _ _ t' b ha hdup hb)
    have hnew : ∀ o ∈ s, o.root ≠ .plan (ops.hash (se ++ re) w.clock) := fun o ho hne => by
      rw [← hne, (hI.roots o ho).1] at hdup; cases hdup
    have hs : specStep cfg ops s w (.rename se re) = push s (.plan (ops.hash (se ++ re) w.clock)) w.tree t' := by
      unfold specStep; simp [hstep, heq]
    rw [hs, hstep, heq]
    refine ⟨?_, inv_applied hI t' hdup nofun (opsKept_push _ _ _ _) (fun o' ho' => ?_)
      ⟨_, find_push_new s _ _ _ ((find_eq_none s _).2 hnew), ha⟩ (status_rename hI.status _ w.tree t' hdup hnew)⟩
    · unfold Conforms; simp only [hstep, heq]
      exact Or.inl ⟨trivial, _, rfl, hdup⟩
    · simp only [push, List.mem_append, List.mem_singleton] at ho'
      rcases ho' with ho' | rfl
      · exact Or.inl ⟨o', ho', rfl⟩
      · exact Or.inr ⟨rfl, _, rfl⟩

theorem inv_undo (hRI : cfg.revertIdOfRoot = false) (hRT : RoundTrip ops) (t : Target H) (hI : Inv ops w s)
    (hG : G10 ops w s (.undo t) = true) :
    Conforms cfg ops w s (.undo t) ∧ Inv ops (step cfg ops w (.undo t)).1 (specStep cfg ops s w (.undo t)) := by
  rcases undo_cases cfg ops w t with heq | ⟨i, e, hr, hf, h1, hnorev, _⟩
  · exact inv_unchanged cfg ops w s _ hI (o := .rejected) (by decide) heq
  obtain ⟨hemem, rfl⟩ := findEntry_some _ _ _ hf
  have hrid : revertId cfg e.id w.clock = .revert e.id w.clock := by simp [revertId, hRI]
  obtain ⟨o, p, b, hfs, hp, hb, hap⟩ := hI.stored e hemem h1
  obtain ⟨o', ho', htree⟩ := G10_undo ops w s hG hr (by simp [undoEligible, hf, h1, hnorev])
  cases hfs.symm.trans ho'
  -- an entry without a revert carries an applied operation: proved, not assumed
  have happ : o.applied = true := hI.status.unrevApplied e hemem h1 hnorev o hfs
  -- the revert id is free: an entry that had it would revert `e`
  have hd : hasId w.entries (.revert e.id w.clock) = false := Bool.eq_false_iff.2 fun hh => by
    obtain ⟨e', he', hid'⟩ := (hasId_iff _ _).1 hh
    rw [(hasRevertOf_iff _ _).2 ⟨e', he', hI.revForm e' he' _ _ hid'⟩] at hnorev
    cases hnorev
  have heq := undo_ok cfg ops w t e.id e p b o.pre hr hf h1 hnorev hp hb (by rw [htree]; exact hRT _ _ _ _ hap)
    (by rw [hrid]; exact hd)
  rw [hrid] at heq
  have hs : specStep cfg ops s w (.undo t) = setApplied s e.id.root false := by
    unfold specStep; simp [heq, hr]
  rw [hs, heq]
  refine ⟨?_, inv_reverted hI e.id w.clock o.pre (opsKept_setApplied _ _ _) (mem_setApplied s _ _)
    (status_undo hI.status e w.clock hemem h1 hnorev)⟩
  unfold Conforms; simp only [heq]
  exact Or.inl ⟨trivial, ⟨_, rfl, hd⟩, e.id, o, hr, hfs, happ, rfl⟩

theorem inv_redo (hE : cfg.earlyDupCheck = true) (hR : cfg.redoOnce = true) (t : Target H) (hI : Inv ops w s)
    (hG : G10 ops w s (.redo t) = true) :
    Conforms cfg ops w s (.redo t) ∧ Inv ops (step cfg ops w (.redo t)).1 (specStep cfg ops s w (.redo t)) := by
  rcases redo_cases cfg ops w t with heq | ⟨i, p, hr, hid, hrev, hnoredo, hp, hok, _⟩
  · exact inv_unchanged cfg ops w s _ hI (o := .rejected) (by decide) heq
  have heq := redo_eligible cfg ops w t i p hr hid hrev hnoredo hp hok
  have hnoredo := hnoredo hR
  obtain ⟨o, hfs, htree⟩ := G10_redo ops w s hG hr (by simp [redoEligible, hid, hrev, hnoredo])
  obtain ⟨e, hemem, rfl⟩ := (hasId_iff _ _).1 hid
  -- the addressed entry is not a revert: the abstract history has only plan ids as roots
  have h1 : e.revertOf = none := by
    cases hh : e.revertOf with
    | none => rfl
    | some j =>
      obtain ⟨c, hc⟩ := hI.revOnly e hemem j hh
      obtain ⟨hom, horoot⟩ := find_some s _ o hfs
      obtain ⟨_, h, hpl⟩ := hI.roots o hom
      rw [horoot, hc] at hpl; cases hpl
  obtain ⟨o', p', b, ho', hp', hb, hap⟩ := hI.stored e hemem h1
  cases hfs.symm.trans ho'
  cases hp.symm.trans hp'
  -- reverted and not redone since: the operation is undone — proved, not assumed
  have happ : o.applied = false := hI.status.revUndone e hemem h1 hrev hnoredo o hfs
  cases hfresh : hasId w.entries (.redo e.id w.clock) with
  | true =>
    -- same-second repetition: `redo-<id>-<sec>` is already there, refused before anything is touched
    exact inv_unchanged cfg ops w s _ hI (o := .rejected) (by decide) (heq.trans (applyWithId_dup cfg ops w hE _ p hfresh))
  | false =>
  have hbk : lookup w.backups (.redo e.id w.clock) = none := Classical.byContradiction fun hl => by
    rw [hI.backupsIds _ hl] at hfresh; cases hfresh
  have heq := heq.trans (applyWithId_ok cfg ops w _ p _ b (htree ▸ hap) hfresh hbk)
  have hs : specStep cfg ops s w (.redo t) = setApplied s e.id.root true := by
    unfold specStep; simp [heq, hr]
  obtain ⟨o3, k1, k2, k3⟩ := opsKept_setApplied s e.id.root true _ o hfs
  rw [hs, heq]
  refine ⟨?_, inv_applied hI o.post hfresh nofun (opsKept_setApplied _ _ _) (fun o2 ho2 => Or.inl (mem_setApplied s _ _ o2 ho2))
    ⟨o3, k1, by rw [k2, k3]; exact hap⟩ (status_redo hI.status e w.clock hemem h1 hrev hnoredo hfresh)⟩
  unfold Conforms; simp only [heq]
  exact Or.inl ⟨trivial, ⟨_, rfl, hfresh⟩, e.id, o, hr, hfs, happ, rfl⟩

theorem inv_step (hE : cfg.earlyDupCheck = true) (hR : cfg.redoOnce = true) (hRI : cfg.revertIdOfRoot = false)
    (hRT : RoundTrip ops) (c : Cmd H) (hI : Inv ops w s) (hG : G10 ops w s c = true) :
    Conforms cfg ops w s c ∧ Inv ops (step cfg ops w c).1 (specStep cfg ops s w c) := by
  cases c with
  | rename se re => exact inv_rename cfg ops w s hE se re hI hG
  | undo t => exact inv_undo cfg ops w s hRI hRT t hI hG
  | redo t => exact inv_redo cfg ops w s hE hR t hI hG
  | tick =>
    -- the invariant does not read the clock
    rw [specStep_not_ok cfg ops w s .tick nofun]
    exact ⟨conforms_unchanged cfg ops w s .tick nofun rfl rfl, ⟨hI.stored, hI.roots, hI.revForm, hI.revOnly, hI.backupsIds, hI.status⟩⟩

theorem guarded_conform (hE : cfg.earlyDupCheck = true) (hR : cfg.redoOnce = true) (hRI : cfg.revertIdOfRoot = false)
    (hRT : RoundTrip ops) (cs : List (Cmd H)) :
    ∀ (w : World Tree Plan Backup H) (s : Spec Tree H), Inv ops w s → Guarded cfg ops w s cs = true →
      AllConform cfg ops w s cs := by
  induction cs with
  | nil => intro w s _ _; trivial
  | cons c cs ih =>
    intro w s hI hG
    unfold Guarded at hG
    simp only [Bool.and_eq_true] at hG
    obtain ⟨h1, h2⟩ := inv_step cfg ops w s hE hR hRI hRT c hI hG.1
    exact ⟨h1, ih _ _ h2 hG.2⟩

end
end History
