import RModel.Base.Lit
import RModel.Model.Patch
/- `Patch.lines` and the header loop `Patch.rewriteGo` of `replace_patch_headers`. -/
namespace PatchText
open Patch

-- instance search finds this only after a long detour, and every `simp` about line bytes asks for it anew
local instance : LawfulBEq UInt8 := inferInstance

theorem sw_append (p x : Bytes) : sw (p ++ x) p = true :=
  List.isPrefixOf_iff_prefix.2 (List.prefix_append p x)

theorem sw_head_ne {l p q : Bytes} {a b : UInt8} (h : sw l (a :: p) = true) (hab : a ≠ b) :
    sw l (b :: q) = false := by
  cases l with
  | nil => cases h
  | cons c l =>
    simp only [sw, List.isPrefixOf, Bool.and_eq_true, beq_iff_eq] at h
    simp [sw, List.isPrefixOf, ← h.1, Ne.symm hab]

theorem lines_cons_ne (c : UInt8) (cs : Bytes) (h : c ≠ 10) :
    lines (c :: cs) = (match lines cs with | [] => [[c]] | l :: ls => (c :: l) :: ls) := by
  rw [lines]; simp only [h, if_false]; cases lines cs <;> rfl

theorem lines_cons_nl (cs : Bytes) : lines (10 :: cs) = [10] :: lines cs := by
  rw [lines]; simp

theorem lines_line_append (s t : Bytes) (hs : (10 : UInt8) ∉ s) :
    lines (s ++ [10] ++ t) = (s ++ [10]) :: lines t := by
  induction s with
  | nil => exact lines_cons_nl t
  | cons c s ih =>
    rw [List.mem_cons, not_or] at hs
    rw [List.cons_append, List.cons_append, lines_cons_ne _ _ (Ne.symm hs.1), ih hs.2]

theorem lines_body {body : Bytes} (h : sw body b!"@@" = true) : ∃ l ls, lines body = (64 :: 64 :: l) :: ls := by
  match body, h with
  | [], h => cases h
  | [_], h => simp [sw, List.isPrefixOf] at h
  | c1 :: c2 :: rest, h =>
    simp only [sw, List.isPrefixOf, Bool.and_eq_true, beq_iff_eq, Bool.and_true] at h
    rw [← h.1, ← h.2, lines_cons_ne _ _ (by decide), lines_cons_ne _ _ (by decide)]
    cases lines rest with
    | nil => exact ⟨[], [], rfl⟩
    | cons l' ls' => exact ⟨l', ls', rfl⟩

theorem concat_lines (s : Bytes) : B.concat (lines s) = s := by
  induction s with
  | nil => rfl
  | cons c s ih =>
    by_cases hc : c = 10
    · subst hc; rw [lines_cons_nl]; exact congrArg (10 :: ·) ih
    · rw [lines_cons_ne _ _ hc]
      cases hl : lines s <;> (rw [hl] at ih; subst ih; rfl)

theorem rewriteGo_false (a b : Bytes) (ls : List Bytes) : rewriteGo a b false ls = B.concat ls := by
  induction ls with
  | nil => rfl
  | cons l ls ih => simp [rewriteGo, ih, B.concat]

theorem rewriteGo_body (a b body : Bytes) (h : sw body b!"@@" = true) :
    rewriteGo a b true (lines body) = body := by
  obtain ⟨l, ls, hl⟩ := lines_body h
  have hcl := concat_lines body
  rw [hl] at hcl ⊢
  have hsw : sw (64 :: 64 :: l) b!"@@" = true := sw_append b!"@@" l
  simp only [rewriteGo, hsw, if_true, Bool.not_false, rewriteGo_false]
  exact hcl

theorem eol_lf {x : Bytes} (h : (13 : UInt8) ∉ x) : eol (x ++ [10]) = [10] := by
  have : ¬ x.reverse.head? = some 13 := fun e => h (List.mem_reverse.1 (List.mem_of_head? e))
  cases hr : x.reverse <;> simp_all [eol, ew, List.isSuffixOf, List.isPrefixOf]

def IsLine (l : Bytes) : Prop := ∃ s, l = s ++ [10] ∧ (10 : UInt8) ∉ s

theorem rewriteGo_shape (l1 l2 body a b : Bytes) (h1 : IsLine l1) (h2 : IsLine l2)
    (p1 : sw l1 b!"--- " = true) (p2 : sw l2 b!"+++ " = true) (p3 : sw body b!"@@" = true) :
    rewriteGo a b true (splitPreservingNewlines (l1 ++ l2 ++ body))
      = b!"--- " ++ a ++ eol l1 ++ (b!"+++ " ++ b ++ eol l2 ++ body) := by
  obtain ⟨s1, rfl, hs1⟩ := h1
  obtain ⟨s2, rfl, hs2⟩ := h2
  unfold splitPreservingNewlines
  rw [List.append_assoc, List.append_assoc s2, lines_line_append s1 _ hs1, ← List.append_assoc s2,
    lines_line_append s2 _ hs2]
  have n1 : sw (s1 ++ [10]) b!"@@" = false := sw_head_ne p1 (by decide)
  have n2 : sw (s2 ++ [10]) b!"@@" = false := sw_head_ne p2 (by decide)
  have n3 : sw (s2 ++ [10]) b!"--- " = false := sw_head_ne p2 (by decide)
  simp only [rewriteGo, n1, n2, n3, p1, p2, Bool.false_eq_true, if_false, if_true, Bool.not_true,
    rewriteGo_body a b body p3]

end PatchText
