import RModel.Lemmas.CaseModelDetect
/-
  The fourteen styles.  Every rendering is the list of cased tokens (the first possibly cased unlike the others) glued by
  the style's separator (`toStyle_eq`); what is needed about a rendered word is proved once per casing and lifted to
  lists.  `rendWords ws st` is the exact token list that the tokenizer returns on `toStyle A ws st`; on it `map lower`
  gives back the words and `toStyle · st` gives back the rendering.
-/
open B

namespace CaseModel

variable {A : Acr}

def Words (ws : List Bytes) : Prop := ∀ w ∈ ws, Word w
def LowerWords (ws : List Bytes) : Prop := ∀ w ∈ ws, LowerWord w
/-- no word triggers acronym handling (clauses N1, N2 of `NeutralWord`) -/
def Neutral (A : Acr) (ws : List Bytes) : Prop := ∀ w ∈ ws, NeutralWord A w

instance (ws : List Bytes) : Decidable (Words ws) := by unfold Words; infer_instance
instance (ws : List Bytes) : Decidable (LowerWords ws) := by unfold LowerWords; infer_instance
instance (A : Acr) (ws : List Bytes) : Decidable (Neutral A ws) := by unfold Neutral; infer_instance

theorem Words.lowerWords {ws : List Bytes} (h : Words ws) : LowerWords ws := fun w hw => (h w hw).lowerWord

theorem Words.append {xs ys : List Bytes} (hx : Words xs) (hy : Words ys) : Words (xs ++ ys) :=
  fun w hw => (List.mem_append.mp hw).elim (hx w) (hy w)

theorem Words.tail {w : Bytes} {ws : List Bytes} (h : Words (w :: ws)) : Words ws :=
  fun x hx => h x (List.mem_cons_of_mem _ hx)
theorem LowerWords.tail {w : Bytes} {ws : List Bytes} (h : LowerWords (w :: ws)) : LowerWords ws :=
  fun x hx => h x (List.mem_cons_of_mem _ hx)
theorem Neutral.tail {w : Bytes} {ws : List Bytes} (h : Neutral A (w :: ws)) : Neutral A ws :=
  fun x hx => h x (List.mem_cons_of_mem _ hx)

theorem map_lower_lowerWords {ws : List Bytes} (h : LowerWords ws) : ws.map lower = ws :=
  List.map_id_of (fun w hw => lower_of_lower (h w hw).2)

theorem map_capOrKeep_lowerWords {ws : List Bytes} (h : LowerWords ws) :
    ws.map (capOrKeep A) = ws.map capitalizeFirst :=
  List.map_congr_left (fun w hw => capOrKeep_lower (h w hw))

theorem parse_lower_sep (hA : AcrOk A) {d : UInt8} (hd : isDelim d = true) {ws : List Bytes}
    (h : LowerWords ws) : parse A (joinWith [d] ws) = ws :=
  parse_join hd ws (fun r hr => good_lower hA (h r hr).1 (h r hr).2)

theorem parse_upper_sep (hA : AcrOk A) (hS : AcrStable A) {d : UInt8} (hd : isDelim d = true) {ws : List Bytes}
    (h : LowerWords ws) (hN : ∀ w ∈ ws, NeutralUpper A w) :
    parse A (joinWith [d] (ws.map upper)) = ws.map upper := by
  apply parse_join hd
  intro r hr
  obtain ⟨w, hw, rfl⟩ := List.mem_map.mp hr
  exact good_upper hA hS (upper_ne_nil (h w hw).1) (upper_all_upper (h w hw).2) (hN w hw).noAcrPair

theorem parse_cap_sep (hA : AcrOk A) (hS : AcrStable A) {d : UInt8} (hd : isDelim d = true) {ws : List Bytes}
    (h : Words ws) (hN : ∀ w ∈ ws, NeutralCap A w) :
    parse A (joinWith [d] (ws.map capitalizeFirst)) = ws.map capitalizeFirst := by
  apply parse_join hd
  intro r hr
  obtain ⟨w, hw, rfl⟩ := List.mem_map.mp hr
  exact good_cap hA hS (isCap_capitalizeFirst (h w hw)) (hN w hw)

theorem parse_sentence_words (hA : AcrOk A) (hS : AcrStable A) {w : Bytes} {ws : List Bytes} (hw : Word w)
    (hN : NeutralCap A w) (h : LowerWords ws) :
    parse A (joinWith [32] (capitalizeFirst w :: ws)) = capitalizeFirst w :: ws := by
  apply parse_join (by decide)
  intro r hr
  rcases List.mem_cons.mp hr with rfl | hr
  · exact good_cap hA hS (isCap_capitalizeFirst hw) hN
  · exact good_lower hA (h r hr).1 (h r hr).2

/-- the tokens of `toStyle A ws st` (for the twelve styles that keep word boundaries) -/
def rendWords (ws : List Bytes) : Style → List Bytes
  | .snake | .kebab | .dot | .lowerSentence => ws
  | .screamingSnake | .screamingTrain | .upperSentence => ws.map upper
  | .title | .train | .pascal => ws.map capitalizeFirst
  | .camel => match ws with | [] => [] | w :: r => w :: r.map capitalizeFirst
  | .sentence => match ws with | [] => [] | w :: r => capitalizeFirst w :: r
  | .lowerFlat | .upperFlat => ws

def V12 : List Style :=
  [.snake, .kebab, .camel, .pascal, .screamingSnake, .title, .train, .screamingTrain, .dot, .sentence,
   .lowerSentence, .upperSentence]

theorem caps_of_words {ws : List Bytes} (h : Words ws) : ∀ x ∈ ws.map capitalizeFirst, IsCap x := by
  intro x hx
  obtain ⟨w, hw, rfl⟩ := List.mem_map.mp hx
  exact isCap_capitalizeFirst (h w hw)

theorem caps_neutral {ws : List Bytes} (h : ∀ w ∈ ws, NeutralCap A w) :
    ∀ x ∈ ws.map capitalizeFirst, A.flm x ≠ some 1 := by
  intro x hx
  obtain ⟨w, hw, rfl⟩ := List.mem_map.mp hx
  exact h w hw

theorem parse_rendWords (hA : AcrOk A) (hS : AcrStable A) {ws : List Bytes} (hw : Words ws)
    (hN : Neutral A ws) {st : Style} (hst : st ∈ V12) : parse A (toStyle A ws st) = rendWords ws st := by
  have hl := hw.lowerWords
  have hNu : ∀ w ∈ ws, NeutralUpper A w := fun w h => (hN w h).1
  have hNc : ∀ w ∈ ws, NeutralCap A w := fun w h => (hN w h).2
  cases st <;> simp only [toStyle, rendWords, map_lower_lowerWords hl, map_capOrKeep_lowerWords hl]
  case snake | kebab | dot | lowerSentence => exact parse_lower_sep hA (by decide) hl
  case screamingSnake | screamingTrain | upperSentence => exact parse_upper_sep hA hS (by decide) hl hNu
  case title | train => exact parse_cap_sep hA hS (by decide) hw hNc
  case lowerFlat | upperFlat => exact absurd hst (by decide)
  case camel =>
    cases ws with
    | nil => rfl
    | cons w r =>
      simp only [lower_of_lower (hl w (List.mem_cons_self ..)).2, map_capOrKeep_lowerWords hl.tail]
      exact parse_camel hA hS (hl w (List.mem_cons_self ..)) (caps_of_words hw.tail)
        (caps_neutral (fun x hx => hNc x (List.mem_cons_of_mem _ hx)))
  case pascal =>
    cases ws with
    | nil => rfl
    | cons w r =>
      exact parse_pascal hA hS (isCap_capitalizeFirst (hw w (List.mem_cons_self ..)))
        (hNc w (List.mem_cons_self ..)) (caps_of_words hw.tail)
  case sentence =>
    cases ws with
    | nil => rfl
    | cons w r =>
      simp only [map_lower_lowerWords hl.tail]
      exact parse_sentence_words hA hS (hw w (List.mem_cons_self ..)) (hNc w (List.mem_cons_self ..)) hl.tail

theorem map_lower_upper_words {ws : List Bytes} (h : LowerWords ws) : (ws.map upper).map lower = ws := by
  rw [List.map_map]; exact List.map_id_of (fun w hw => lower_upper_of_lower (h w hw).2)

theorem map_lower_cap_words {ws : List Bytes} (h : LowerWords ws) : (ws.map capitalizeFirst).map lower = ws := by
  rw [List.map_map]; exact List.map_id_of (fun w hw => lower_capitalizeFirst (h w hw).2)

theorem map_lower_rendWords {ws : List Bytes} (h : LowerWords ws) (st : Style) :
    (rendWords ws st).map lower = ws := by
  cases st <;> simp only [rendWords, map_lower_lowerWords h, map_lower_upper_words h, map_lower_cap_words h]
  · cases ws with
    | nil => rfl
    | cons w r =>
      simp only [List.map_cons, lower_of_lower (h w (List.mem_cons_self ..)).2, map_lower_cap_words h.tail]
  · cases ws with
    | nil => rfl
    | cons w r =>
      simp only [List.map_cons, lower_capitalizeFirst (h w (List.mem_cons_self ..)).2, map_lower_lowerWords h.tail]

inductive Casing where
  | lower | upper | cap | capKeep

def Casing.fn (A : Acr) : Casing → Bytes → Bytes
  | .lower => B.lower
  | .upper => B.upper
  | .cap => capitalizeFirst
  | .capKeep => capOrKeep A

def Style.casing : Style → Casing × Casing
  | .snake | .kebab | .dot | .lowerSentence | .lowerFlat => (.lower, .lower)
  | .screamingSnake | .screamingTrain | .upperSentence | .upperFlat => (.upper, .upper)
  | .title => (.cap, .cap)
  | .train | .pascal => (.capKeep, .capKeep)
  | .camel => (.lower, .capKeep)
  | .sentence => (.cap, .lower)

def Style.sep : Style → Option UInt8
  | .snake | .screamingSnake => some 95
  | .kebab | .train | .screamingTrain => some 45
  | .dot => some 46
  | .title | .sentence | .lowerSentence | .upperSentence => some 32
  | .camel | .pascal | .lowerFlat | .upperFlat => none

def glue : Option UInt8 → List Bytes → Bytes
  | some d, rs => joinWith [d] rs
  | none, rs => concat rs

def cased (A : Acr) (c : Casing × Casing) : List Bytes → List Bytes
  | [] => []
  | t :: r => c.1.fn A t :: r.map (c.2.fn A)

theorem toStyle_eq (A : Acr) (ts : List Bytes) (st : Style) :
    toStyle A ts st = glue st.sep (cased A st.casing ts) := by
  cases st <;> cases ts <;> rfl

theorem rendWords_cased (A : Acr) {ws : List Bytes} (h : LowerWords ws) {st : Style} (hst : st ∈ V12) :
    rendWords ws st = cased A st.casing ws := by
  cases ws with
  | nil => cases st <;> rfl
  | cons w r =>
    have h1 := lower_of_lower (h w (List.mem_cons_self ..)).2
    have h2 := capOrKeep_lower (A := A) (h w (List.mem_cons_self ..))
    cases st <;> first
      | exact absurd hst (by decide)
      | simp only [rendWords, cased, Style.casing, Casing.fn, List.map_cons, h1, h2, map_lower_lowerWords h.tail,
          map_capOrKeep_lowerWords h.tail]

def Rend (A : Acr) (r w : Bytes) : Prop := ∀ k : Casing, k.fn A r = k.fn A w

theorem rend_cap {w : Bytes} (h : Word w) : Rend A (capitalizeFirst w) w := by
  have hc := isCap_capitalizeFirst h
  intro k
  cases k
  · exact (lower_capitalizeFirst h.2).trans (lower_of_lower h.2).symm
  · exact upper_capitalizeFirst h.2
  · exact capitalizeFirst_cap hc
  · exact (capOrKeep_cap hc).trans (capOrKeep_lower h.lowerWord).symm

/-- an upper-case rendering re-renders like the word if it is longer than two letters (`capitalize_first` keeps
    all-upper strings of length ≤ 2) and is not a known acronym (Camel/Pascal/Train keep those verbatim) -/
theorem rend_upper {w : Bytes} (hlen : 3 ≤ w.length) (hw : ∀ c ∈ w, isLower c = true)
    (hacr : A.isAcr (upper w) = false) : Rend A (upper w) w := by
  have hcap : capitalizeFirst (upper w) = capitalizeFirst w := by
    match w, hlen, hw with
    | c :: cs, hlen, hw =>
      have hcs : ∀ x ∈ cs, isLower x = true := fun x hx => hw x (List.mem_cons_of_mem _ hx)
      rw [capitalizeFirst_lower_cons hw]
      have hl : decide ((toUpper c :: upper cs).length ≤ 2) = false := by
        rw [decide_eq_false_iff_not, List.length_cons, upper_length]
        simp only [List.length_cons] at hlen; omega
      have : upper (c :: cs) = toUpper c :: upper cs := rfl
      simp only [capitalizeFirst, this, hl, Bool.and_false, Bool.false_eq_true, ↓reduceIte,
        toUpper_toUpper_of_lower (hw c (List.mem_cons_self ..)), lower_upper_of_lower hcs]
  have hne : w ≠ [] := by intro h; rw [h] at hlen; exact absurd hlen (by decide)
  intro k
  cases k
  · exact (lower_upper_of_lower hw).trans (lower_of_lower hw).symm
  · exact upper_upper_of_lower hw
  · exact hcap
  · show capOrKeep A (upper w) = capOrKeep A w
    rw [capOrKeep_lower ⟨hne, hw⟩, capOrKeep, keepAcr, hacr, Bool.and_false]
    exact hcap

theorem rend_fn (k : Casing) {w : Bytes} (hw : Word w)
    (hU : k = .upper → 3 ≤ w.length ∧ A.isAcr (upper w) = false) : Rend A (k.fn A w) w := by
  cases k
  · show Rend A (lower w) w
    rw [lower_of_lower hw.2]
    exact fun _ => rfl
  · exact rend_upper (hU rfl).1 hw.2 (hU rfl).2
  · exact rend_cap hw
  · show Rend A (capOrKeep A w) w
    rw [capOrKeep_lower hw.lowerWord]
    exact rend_cap hw

theorem fn_idem (k : Casing) {w : Bytes} (hw : Word w) : k.fn A (k.fn A w) = k.fn A w := by
  cases k
  · exact rend_fn .lower hw (fun h => nomatch h) .lower
  · exact upper_upper_of_lower hw.2
  · exact rend_fn .cap hw (fun h => nomatch h) .cap
  · exact rend_fn .capKeep hw (fun h => nomatch h) .capKeep

theorem cased_cased {c c' : Casing × Casing} {ws : List Bytes}
    (h : ∀ w ∈ ws, c'.1.fn A (c.1.fn A w) = c'.1.fn A w ∧ c'.2.fn A (c.2.fn A w) = c'.2.fn A w) :
    cased A c' (cased A c ws) = cased A c' ws := by
  cases ws with
  | nil => rfl
  | cons w r =>
    rw [cased, cased, cased, (h w (List.mem_cons_self ..)).1, List.map_map]
    exact congrArg _ (List.map_congr_left fun x hx => (h x (List.mem_cons_of_mem _ hx)).2)

theorem toStyle_rendWords_of {ws : List Bytes} (h : LowerWords ws) {sst : Style} (hsst : sst ∈ V12) {st : Style}
    (hc : ∀ w ∈ ws, st.casing.1.fn A (sst.casing.1.fn A w) = st.casing.1.fn A w ∧
      st.casing.2.fn A (sst.casing.2.fn A w) = st.casing.2.fn A w) :
    toStyle A (rendWords ws sst) st = toStyle A ws st := by
  rw [rendWords_cased A h hsst, toStyle_eq, toStyle_eq, cased_cased hc]

theorem toStyle_rendWords {ws : List Bytes} (hw : Words ws) {st : Style} (hst : st ∈ V12) :
    toStyle A (rendWords ws st) st = toStyle A ws st :=
  toStyle_rendWords_of hw.lowerWords hst fun w h => ⟨fn_idem _ (hw w h), fn_idem _ (hw w h)⟩

theorem concat_append (xs ys : List Bytes) : concat (xs ++ ys) = concat xs ++ concat ys := by
  induction xs with
  | nil => rfl
  | cons x xs ih => simp only [List.cons_append, concat_cons, ih, List.append_assoc]

theorem concat_flush (cur : Bytes) (acc : List Bytes) : concat (flush cur acc) = concat acc ++ cur := by
  cases cur with
  | nil => simp only [flush_nil, List.append_nil]
  | cons c cs =>
    rw [flush_ne_nil (by simp), concat_append]
    simp only [concat_cons, concat_nil, List.append_nil]

theorem upperSplit_some_pos {rest : Bytes} {n : Nat} (h : upperSplit A rest = some n) : 1 ≤ n := by
  simp only [upperSplit] at h
  split at h
  · split at h
    · next hc =>
      simp only [Bool.and_eq_true, decide_eq_true_eq] at hc
      split at h
      · next m hm =>
        have := List.mem_of_find?_eq_some hm
        simp only [List.mem_reverse, List.mem_range'_1] at this
        simp only [Option.some.injEq] at h; omega
      · simp only [Option.some.injEq] at h; omega
    · exact absurd h (by simp)
  · exact absurd h (by simp)

theorem take_append_drop_pred {n : Nat} (hn : 1 ≤ n) (b : UInt8) (rest : Bytes) :
    (b :: rest).take n ++ rest.drop (n - 1) = b :: rest := by
  obtain ⟨m, rfl⟩ : ∃ m, n = m + 1 := ⟨n - 1, by omega⟩
  simp only [List.take_succ_cons, Nat.add_sub_cancel, List.cons_append, List.take_append_drop]

theorem concat_tok (hA : AcrOk A) : ∀ (s : Bytes) (prev : Option UInt8) (cur : Bytes) (skip : Nat)
    (acc : List Bytes), (∀ c ∈ s, isAlnum c = true) →
    concat (tok A prev cur skip s acc) = concat acc ++ cur ++ s.drop skip
  | [], prev, cur, skip, acc, _ => by
    simp only [tok_nil, concat_flush, List.drop_nil, List.append_nil]
  | b :: rest, prev, cur, skip + 1, acc, h => by
    rw [tok_skip, concat_tok hA rest _ _ _ _ (fun c hc => h c (List.mem_cons_of_mem _ hc))]
    rfl
  | b :: rest, prev, cur, 0, acc, h => by
    have hb : isAlnum b = true := h b (List.mem_cons_self ..)
    have hd : isDelim b = false := by cc
    have hr : ∀ c ∈ rest, isAlnum c = true := fun c hc => h c (List.mem_cons_of_mem _ hc)
    simp only [tok, hd, hb, Bool.false_eq_true, ↓reduceIte, List.drop_zero]
    split
    · next n hj =>
      -- a jump: only with an empty buffer, and it consumes at least one byte
      have hcur : cur = [] ∧ 1 ≤ n := by
        cases cur with
        | cons c cs => simp only [List.isEmpty_cons, Bool.false_eq_true, ↓reduceIte] at hj; exact absurd hj (by simp)
        | nil =>
          refine ⟨rfl, ?_⟩
          simp only [List.isEmpty_nil, ↓reduceIte] at hj
          split at hj
          · next m hm => simp only [Option.some.injEq] at hj; subst hj; exact (hA _ _ (acrAccept_some hm).1).1
          · split at hj
            · exact upperSplit_some_pos hj
            · exact absurd hj (by simp)
      rw [concat_tok hA rest _ _ _ _ hr, concat_append, hcur.1]
      simp only [concat_cons, concat_nil, List.append_nil, List.append_assoc,
        take_append_drop_pred hcur.2]
    · have key : ∀ c : Bool, concat (if c = true then tok A (some b) [b] 0 rest (acc ++ [cur])
          else tok A (some b) (cur ++ [b]) 0 rest acc) = concat acc ++ cur ++ b :: rest := by
        intro c
        cases c
        · simp only [Bool.false_eq_true, ↓reduceIte]
          rw [concat_tok hA rest _ _ _ _ hr]
          simp only [List.append_assoc, List.drop_zero, List.singleton_append]
        · simp only [↓reduceIte]
          rw [concat_tok hA rest _ _ _ _ hr, concat_append]
          simp only [concat_cons, concat_nil, List.append_nil, List.append_assoc, List.drop_zero,
            List.singleton_append]
      split <;> exact key _

theorem concat_parse (hA : AcrOk A) {s : Bytes} (h : ∀ c ∈ s, isAlnum c = true) : concat (parse A s) = s := by
  rw [parse, concat_tok hA s none [] 0 [] h]; rfl

theorem concat_map_lower : ∀ (ts : List Bytes), concat (ts.map lower) = lower (concat ts)
  | [] => rfl
  | t :: ts => by simp only [List.map_cons, concat_cons, concat_map_lower ts, lower, List.map_append]

theorem concat_map_upper : ∀ (ts : List Bytes), concat (ts.map upper) = upper (concat ts)
  | [] => rfl
  | t :: ts => by simp only [List.map_cons, concat_cons, concat_map_upper ts, upper, List.map_append]

theorem mem_concat {x : UInt8} : ∀ {ws : List Bytes}, x ∈ concat ws → ∃ w ∈ ws, x ∈ w
  | [], h => absurd h (by simp)
  | w :: ws, h => by
    rw [concat_cons, List.mem_append] at h
    rcases h with h | h
    · exact ⟨w, List.mem_cons_self .., h⟩
    · obtain ⟨w', hw', hx⟩ := mem_concat h
      exact ⟨w', List.mem_cons_of_mem _ hw', hx⟩

theorem concat_lower_all {ws : List Bytes} (h : ∀ w ∈ ws, ∀ c ∈ w, isLower c = true) :
    ∀ c ∈ concat ws, isLower c = true := by
  intro c hc
  obtain ⟨w, hw, hx⟩ := mem_concat hc
  exact h w hw c hx

theorem alpha_lowerWords {ws : List Bytes} (h : LowerWords ws) : AlphaWords ws :=
  fun w hw x hx => lower_alpha ((h w hw).2 x hx)

theorem alpha_upperWords {ws : List Bytes} (h : LowerWords ws) : AlphaWords (ws.map upper) := by
  intro r hr x hx
  obtain ⟨w, hw, rfl⟩ := List.mem_map.mp hr
  exact upper_alpha (upper_all_upper (h w hw).2 x hx)

theorem alpha_cap {r : Bytes} (h : IsCap r) : ∀ x ∈ r, isAlpha x = true := by
  obtain ⟨u, l0, l', rfl, hu, hl⟩ := h
  intro x hx
  rcases List.mem_cons.mp hx with rfl | hx
  · exact upper_alpha hu
  · exact lower_alpha (hl x hx)

theorem alpha_capWords {rs : List Bytes} (h : ∀ r ∈ rs, IsCap r) : AlphaWords rs :=
  fun r hr => alpha_cap (h r hr)

theorem sep_flags (d : UInt8) (hda : isAlpha d = false) {rs : List Bytes} (h2 : 2 ≤ rs.length)
    (ha : AlphaWords rs) {up lo : Bool} (hu : rs.any (fun r => r.any isUpper) = up)
    (hl : rs.any (fun r => r.any isLower) = lo) :
    contains (joinWith [d] rs) 95 = (d == 95) ∧ contains (joinWith [d] rs) 45 = (d == 45) ∧
    contains (joinWith [d] rs) 46 = (d == 46) ∧ contains (joinWith [d] rs) 32 = (d == 32) ∧
    (joinWith [d] rs).any isUpper = up ∧ (joinWith [d] rs).any isLower = lo := by
  refine ⟨contains_joinWith (by decide) h2 ha, contains_joinWith (by decide) h2 ha,
    contains_joinWith (by decide) h2 ha, contains_joinWith (by decide) h2 ha, ?_, ?_⟩
  · rw [any_joinWith_of_not_sep isUpper (by cc), hu]
  · rw [any_joinWith_of_not_sep isLower (by cc), hl]

theorem concat_flags {rs : List Bytes} (ha : AlphaWords rs) {up lo : Bool}
    (hu : rs.any (fun r => r.any isUpper) = up) (hl : rs.any (fun r => r.any isLower) = lo) :
    contains (concat rs) 95 = false ∧ contains (concat rs) 45 = false ∧
    contains (concat rs) 46 = false ∧ contains (concat rs) 32 = false ∧
    (concat rs).any isUpper = up ∧ (concat rs).any isLower = lo :=
  ⟨contains_concat (by decide) ha, contains_concat (by decide) ha, contains_concat (by decide) ha,
    contains_concat (by decide) ha, by rw [any_concat, hu], by rw [any_concat, hl]⟩

def Casing.firstUp : Casing → Bool
  | .lower => false
  | _ => true

/-- an upper-case letter after the first byte (words have two or more letters) -/
def Casing.tailUp : Casing → Bool
  | .upper => true
  | _ => false

def Casing.hasLo : Casing → Bool
  | .upper => false
  | _ => true

theorem fn_spec (A : Acr) (k : Casing) {w : Bytes} (hw : Word w) :
    ∃ a t, k.fn A w = a :: t ∧ (∀ x ∈ a :: t, isAlpha x = true) ∧ isUpper a = k.firstUp ∧ isLower a = !k.firstUp ∧
      t.any isUpper = k.tailUp ∧ (a :: t).any isLower = k.hasLo := by
  have hcap : ∃ a t, capitalizeFirst w = a :: t ∧ (∀ x ∈ a :: t, isAlpha x = true) ∧ isUpper a = true ∧
      isLower a = false ∧ t.any isUpper = false ∧ (a :: t).any isLower = true := by
    obtain ⟨u, l0, l', he, hu, hl⟩ := isCap_capitalizeFirst hw
    refine ⟨u, l0 :: l', he, alpha_cap ⟨u, l0, l', rfl, hu, hl⟩, hu, upper_not_lower hu, ?_, ?_⟩
    · exact List.any_eq_false.mpr fun x hx => by rw [lower_not_upper (hl x hx)]; decide
    · rw [List.any_cons, List.any_cons, hl l0 (List.mem_cons_self ..), Bool.true_or, Bool.or_true]
  match w, hw with
  | c :: c' :: w', hw =>
    have hc := hw.2 c (List.mem_cons_self ..)
    have hU : ∀ x ∈ upper (c :: c' :: w'), isUpper x = true := upper_all_upper hw.2
    cases k with
    | lower =>
      refine ⟨c, c' :: w', lower_of_lower hw.2, fun x hx => lower_alpha (hw.2 x hx), lower_not_upper hc, hc, ?_, ?_⟩
      · exact List.any_eq_false.mpr fun x hx => by rw [lower_not_upper (hw.2 x (List.mem_cons_of_mem _ hx))]; decide
      · rw [List.any_cons, hc, Bool.true_or]; rfl
    | upper =>
      refine ⟨toUpper c, toUpper c' :: upper w', rfl, fun x hx => upper_alpha (hU x hx), hU _ (List.mem_cons_self ..),
        upper_not_lower (hU _ (List.mem_cons_self ..)), ?_, ?_⟩
      · rw [List.any_cons, hU (toUpper c') (List.mem_cons_of_mem _ (List.mem_cons_self ..)), Bool.true_or]; rfl
      · exact List.any_eq_false.mpr fun x hx => by rw [upper_not_lower (hU x hx)]; decide
    | cap => exact hcap
    | capKeep => rw [Casing.fn, capOrKeep_lower hw.lowerWord]; exact hcap

theorem cased_flags (A : Acr) (c : Casing × Casing) {w v : Bytes} {l : List Bytes} (hw : Words (w :: v :: l)) :
    AlphaWords (cased A c (w :: v :: l)) ∧
    (cased A c (w :: v :: l)).any (fun r => r.any isUpper) =
      (c.1.firstUp || c.1.tailUp || (c.2.firstUp || c.2.tailUp)) ∧
    (cased A c (w :: v :: l)).any (fun r => r.any isLower) = (c.1.hasLo || c.2.hasLo) := by
  obtain ⟨a, t, he, hal, hau, -, htu, hlo⟩ := fn_spec A c.1 (hw w (List.mem_cons_self ..))
  have hrest : ∀ r ∈ (v :: l).map (c.2.fn A), (∀ x ∈ r, isAlpha x = true) ∧
      r.any isUpper = (c.2.firstUp || c.2.tailUp) ∧ r.any isLower = c.2.hasLo := by
    intro r hr
    obtain ⟨u, hu, rfl⟩ := List.mem_map.mp hr
    obtain ⟨a', t', he', hal', hau', -, htu', hlo'⟩ := fn_spec A c.2 (hw u (List.mem_cons_of_mem _ hu))
    rw [he']
    exact ⟨hal', by rw [List.any_cons, hau', htu'], hlo'⟩
  have hne : (v :: l).map (c.2.fn A) ≠ [] := List.cons_ne_nil _ _
  rw [cased, he]
  refine ⟨fun r hr => ?_, ?_, ?_⟩
  · rcases List.mem_cons.mp hr with rfl | hr
    · exact hal
    · exact (hrest r hr).1
  · rw [List.any_cons, List.any_cons, hau, htu, List.any_const hne fun r hr => (hrest r hr).2.1]
  · rw [List.any_cons, hlo, List.any_const hne fun r hr => (hrest r hr).2.2]

theorem glue_flags (sep : Option UInt8) (hsep : ∀ d, sep = some d → isAlpha d = false) {rs : List Bytes}
    (h2 : 2 ≤ rs.length) (ha : AlphaWords rs) {up lo : Bool} (hu : rs.any (fun r => r.any isUpper) = up)
    (hl : rs.any (fun r => r.any isLower) = lo) :
    contains (glue sep rs) 95 = (sep == some 95) ∧ contains (glue sep rs) 45 = (sep == some 45) ∧
    contains (glue sep rs) 46 = (sep == some 46) ∧ contains (glue sep rs) 32 = (sep == some 32) ∧
    (glue sep rs).any isUpper = up ∧ (glue sep rs).any isLower = lo := by
  cases sep with
  | none => exact concat_flags ha hu hl
  | some d => simpa only [glue, Option.some_beq_some] using sep_flags d (hsep d rfl) h2 ha hu hl

theorem isTitleCase_caps {rs : List Bytes} (hne : rs ≠ []) (h : ∀ r ∈ rs, IsCap r) :
    isTitleCase (joinWith [32] rs) = true := by
  rw [isTitleCase, splitOn_joinWith 32 _ hne (alpha_ne_sep (by decide) (alpha_capWords h))]
  exact List.all_eq_true.mpr fun x hx => isTitleWord_cap (h x hx)

theorem isTrainCase_caps (A : Acr) {rs : List Bytes} (hne : rs ≠ []) (h : ∀ r ∈ rs, IsCap r) :
    isTrainCase A (joinWith [45] rs) = true := by
  rw [isTrainCase, splitOn_joinWith 45 _ hne (alpha_ne_sep (by decide) (alpha_capWords h))]
  rw [List.all_eq_true]
  intro x hx
  have hne : x.isEmpty = false := by
    obtain ⟨u, l0, l', rfl, _⟩ := h x hx; rfl
  simp only [hne, isTitleWord_cap (h x hx), Bool.not_false, Bool.true_or, Bool.and_self]

theorem sentence_tests {r w : Bytes} {ws : List Bytes} (hr : IsCap r) (h : LowerWords (w :: ws))
    (ha : AlphaWords (r :: w :: ws)) :
    isTitleCase (joinWith [32] (r :: w :: ws)) = false ∧ isSentenceCase (joinWith [32] (r :: w :: ws)) = true := by
  have hsplit := splitOn_joinWith 32 (r :: w :: ws) (by simp) (alpha_ne_sep (by decide) ha)
  constructor
  · rw [isTitleCase, hsplit]
    simp only [List.all_cons, isTitleWord_lower (h w (List.mem_cons_self ..)).2, Bool.false_and, Bool.and_false]
  · rw [isSentenceCase, hsplit]
    simp only [isTitleWord_cap hr, Bool.true_and]
    rw [List.all_eq_true]
    intro x hx
    have hne : x.isEmpty = false := by
      obtain ⟨c, cs, rfl⟩ := List.exists_cons_of_ne_nil (h x hx).1; rfl
    have hall : x.all (fun c => !isUpper c) = true := by
      rw [List.all_eq_true]; intro c hc; rw [lower_not_upper ((h x hx).2 c hc)]; rfl
    simp only [hne, hall, Bool.not_false, Bool.and_self]

theorem detect_concat_one_case (A : Acr) {rs : List Bytes} (ha : AlphaWords rs) {up lo : Bool}
    (hu : rs.any (fun r => r.any isUpper) = up) (hl : rs.any (fun r => r.any isLower) = lo)
    (h : (up && lo) = false) : detectStyle A (concat rs) = none := by
  obtain ⟨f1, f2, f3, f4, f5, f6⟩ := concat_flags ha hu hl
  rw [detectStyle, f1, f2, f3, f4, f5, f6]
  cases (concat rs).isEmpty
  · cases up <;> cases lo <;> first | rfl | cases h
  · rfl

theorem sep_not_alpha (st : Style) {d : UInt8} (h : st.sep = some d) : isAlpha d = false := by
  cases st <;> cases h <;> rfl

theorem glue_head (A : Acr) (sep : Option UInt8) (c : Casing × Casing) {w : Bytes} (hw : Word w) (ws : List Bytes) :
    ∃ a, (glue sep (cased A c (w :: ws))).head? = some a ∧ isUpper a = c.1.firstUp ∧ isLower a = !c.1.firstUp := by
  obtain ⟨a, t, he, -, hau, hal, -⟩ := fn_spec A c.1 hw
  refine ⟨a, ?_, hau, hal⟩
  rw [cased, he]
  cases sep with
  | none => rfl
  | some d => exact head?_joinWith _ (List.cons_ne_nil _ _)

theorem isEmpty_of_flags {s : Bytes} {up lo : Bool} (hu : s.any isUpper = up) (hl : s.any isLower = lo)
    (h : (up || lo) = true) : s.isEmpty = false := by
  cases s with
  | nil => rw [← hu, ← hl] at h; cases h
  | cons _ _ => rfl

theorem if_neg_pos {α : Type} {c₁ c₂ : Prop} [Decidable c₁] [Decidable c₂] {a b d : α} (h1 : ¬c₁) (h2 : c₂) :
    (if c₁ then a else if c₂ then b else d) = b :=
  (if_neg h1).trans (if_pos h2)

/-- the separator and the letter cases that occur select the branch of `detectStyle`, which is then evaluated -/
theorem detect_toStyle (A : Acr) {ws : List Bytes} (h2 : 2 ≤ ws.length) (hw : Words ws) {st : Style}
    (hst : st ∈ V12) : detectStyle A (toStyle A ws st) = some st := by
  obtain ⟨w, x, r, rfl⟩ : ∃ w x r, ws = w :: x :: r := by
    match ws, h2 with
    | w :: x :: r, _ => exact ⟨w, x, r, rfl⟩
  have hcaps := caps_of_words hw
  obtain ⟨ha, hu, hlo⟩ := cased_flags A st.casing hw
  obtain ⟨f1, f2, f3, f4, f5, f6⟩ := glue_flags st.sep (fun _ => sep_not_alpha st) (Nat.le_add_left ..) ha hu hlo
  obtain ⟨a, hh, hau, hal⟩ := glue_head A st.sep st.casing (hw w (List.mem_cons_self ..)) (x :: r)
  have hne := isEmpty_of_flags f5 f6 (by cases st <;> rfl)
  rw [toStyle_eq, detectStyle, hne, f1, f2, f3, f4, f5, f6]
  cases st
  case lowerFlat | upperFlat => exact absurd hst (by decide)
  case title => exact if_pos (isTitleCase_caps (List.cons_ne_nil _ _) hcaps)
  case train =>
    rw [← map_capOrKeep_lowerWords (A := A) hw.lowerWords] at hcaps
    exact if_pos (isTrainCase_caps A (List.cons_ne_nil _ _) hcaps)
  case sentence =>
    have e : cased A Style.sentence.casing (w :: x :: r) = capitalizeFirst w :: x :: r :=
      congrArg _ (map_lower_lowerWords hw.lowerWords.tail)
    rw [e] at ha ⊢
    obtain ⟨ht, hs⟩ := sentence_tests (hcaps _ (List.mem_cons_self ..)) hw.lowerWords.tail ha
    exact if_neg_pos (ht ▸ Bool.false_ne_true) hs
  case dot =>
    have : ((some a : Option UInt8) == some 46) = false := by
      rw [Option.some_beq_some]; exact Bool.eq_false_iff.mpr fun h => by rw [beq_iff_eq.mp h] at hal; cases hal
    rw [hh, this]; rfl
  case pascal => rw [hh]; exact if_pos hau
  case camel => rw [hh]; exact if_neg_pos (hau ▸ Bool.false_ne_true) hal
  all_goals rfl

theorem detect_flat (A : Acr) {ws : List Bytes} (h : LowerWords ws) {st : Style} (hst : st ∉ V12) :
    detectStyle A (toStyle A ws st) = none := by
  cases st
  case lowerFlat =>
    rw [toStyle, map_lower_lowerWords h]
    exact detect_concat_one_case A (alpha_lowerWords h)
      (any_any_false fun w hw x hx => lower_not_upper ((h w hw).2 x hx)) rfl rfl
  case upperFlat =>
    exact detect_concat_one_case A (alpha_upperWords h) rfl
      (any_any_false fun r hr x hx => by
        obtain ⟨w, hw, rfl⟩ := List.mem_map.mp hr
        exact upper_not_lower (upper_all_upper (h w hw).2 x hx)) (Bool.and_false _)
  all_goals exact absurd (by decide) hst

end CaseModel
