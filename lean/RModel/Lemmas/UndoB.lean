import RModel.Lemmas.Undo
import RModel.Lemmas.PatchParse
import RModel.Lemmas.ContentPhase
/-
  Undo STEP 2 (`undo_content`): under the diff contract every stored reverse patch parses, applies and gives the file
  its original bytes back; what the content phase of apply changes, and what `generate_reverse_patches` stores.
-/
open Fs Apply RenamePhase Undo Patch
namespace UndoLemmas

/-- what is assumed about the diff library (never an axiom: a hypothesis of the theorems).  `selfParse` is about the
    two functions of the MODEL of diffy's text format, `Patch.parse` and `Patch.fmt` (`Model/Patch.lean`) -/
structure Contract (cfg : Cfg) : Prop where
  roundtrip : ∀ a b, cfg.patchApply (cfg.diff a b) a = some b
  emptyId : ∀ p a, p.hunks = [] → cfg.patchApply p a = some a
  nameBlind : ∀ (p : Patch.Patch) n1 n2 a, cfg.patchApply { p with old := n1, new := n2 } a = cfg.patchApply p a
  names : ∀ a b, (cfg.diff a b).old = some b!"original" ∧ (cfg.diff a b).new = some b!"modified"
  selfParse : ∀ a b, Patch.parse (fmt (cfg.diff a b)) = .ok (cfg.diff a b)

theorem Contract.eq_of_noHunks {cfg : Cfg} (hc : Contract cfg) {a b : Bytes} (h : (cfg.diff a b).hunks = []) :
    a = b := by
  have h1 := hc.roundtrip a b
  rw [hc.emptyId _ a h] at h1
  exact Option.some.inj h1

theorem applyOne_good {cfg : Cfg} (hc : Contract cfg) {T : Tree} {f : Path} (cur : Path) {c1 c0 : Bytes} {m : Nat}
    (hl : lookup T f = some (.file c1 m)) (hv : Utf8.valid c1 = true)
    (hh : (cfg.diff c1 c0).hunks ≠ []) :
    applyOne cfg T { orig := f, cur := cur,
                     text := rewriteHeaders (fmt (cfg.diff c1 c0)) (joinPath cur) (joinPath f) }
      = (setContent T f c0, false) := by
  unfold applyOne readStr
  have hp := PatchParse.parse_rewrite (cfg.diff c1 c0) (joinPath cur) (joinPath f) (hc.names c1 c0).1 (hc.names c1 c0).2
    (by decide) (by decide) hh (hc.selfParse c1 c0)
  simp only [hl, hv, if_true, hp, hc.nameBlind, hc.roundtrip]

theorem contentPhase_lookup {hs : List Apply.Hunk} {fs : List Path} {t t1 : Tree}
    (h : contentPhase hs t fs = (.ok, t1)) :
    ∀ f ∈ fs, ∃ c0 m c1, lookup t f = some (.file c0 m) ∧ Utf8.valid c0 = true ∧ lookup t1 f = some (.file c1 m) := by
  induction fs generalizing t with
  | nil => exact fun f hf => nomatch hf
  | cons f fs ih =>
    obtain ⟨c, m, c', hl, hv, _, h⟩ := ContentPhase.contentPhase_cons_ok h
    have hlf : lookup (setContent t f c') f = some (.file c' m) := by
      rw [lookup_setContent, if_pos rfl, hl]; rfl
    intro g hg
    by_cases hgin : g ∈ fs
    · obtain ⟨c0', m', c1, h1, h2, h3⟩ := ih h g hgin
      by_cases hgf : g = f
      · -- a file named twice: the second visit sees the bytes the first one wrote, the mode is the same
        rw [hgf, hlf] at h1
        cases h1
        exact ⟨c, m, c1, hgf ▸ hl, hv, h3⟩
      · rw [lookup_setContent, if_neg hgf] at h1
        exact ⟨c0', m', c1, h1, h2, h3⟩
    · obtain rfl : g = f := (List.mem_cons.1 hg).resolve_right hgin
      have hfr := ContentPhase.contentPhase_frame hs g fs (setContent t g c') fun f' hf' he => hgin (he ▸ hf')
      rw [h, hlf] at hfr
      exact ⟨c, m, c', hl, hv, hfr⟩

theorem backupPhase_ok {r : Result} {files : List Path} (h : (backupPhase r files).outcome = .ok) :
    files.all (fun f => readable r.tree (currentPath r.performed f)) = true := by
  refine Decidable.by_contra fun hall => ?_
  rw [backupPhase, if_neg hall] at h
  split at h
  · split at h <;> cases h
  · cases h

theorem readStr_of_file {t : Tree} {p : Path} {c : Bytes} {m : Nat} (hl : lookup t p = some (.file c m))
    (hv : Utf8.valid c = true) : readStr t p = some c := by
  rw [readStr, hl]
  exact if_pos hv

theorem patchFor_of_read {cfg : Cfg} {t0 : Tree} {r : Result} {f : Path} {c0 c1 : Bytes} (h0 : readStr t0 f = some c0)
    (h1 : readStr r.tree (currentPath r.performed f) = some c1) :
    patchFor cfg t0 r f = if (cfg.diff c1 c0).hunks.isEmpty then none else
      some { orig := f, cur := currentPath r.performed f,
             text := rewriteHeaders (fmt (cfg.diff c1 c0)) (joinPath (currentPath r.performed f)) (joinPath f) } := by
  rw [patchFor, h0]
  dsimp only
  rw [h1]

/-- STEP 2 of undo on what `generate_reverse_patches` stored; `t1` is the tree after the content phase, `c0` / `c1` the
    bytes read before apply / after the renames -/
theorem applyPatches_reverse {cfg : Cfg} (hc : Contract cfg) {t : Tree} {r : Result}
    (hd : t.Pairwise (fun a b => a.1 ≠ b.1)) {fs : List Path} (hfs : fs.Pairwise (fun a b => a ≠ b)) {t1 : Tree} (n : Nat)
    (hk : t1.map (·.1) = t.map (·.1)) (hout : ∀ k, k ∉ fs → lookup t1 k = lookup t k)
    (hfile : ∀ f ∈ fs, ∃ c0 m c1, lookup t f = some (.file c0 m) ∧ Utf8.valid c0 = true ∧
      lookup t1 f = some (.file c1 m) ∧ Utf8.valid c1 = true ∧ readStr r.tree (currentPath r.performed f) = some c1) :
    applyPatches cfg t1 (reversePatches cfg t r fs) n = (t, n) := by
  induction fs generalizing t1 with
  | nil => exact congrArg (·, n) (tree_ext t t1 hk hd fun k => hout k List.not_mem_nil)
  | cons f fs ih =>
    obtain ⟨hne, hfs⟩ := List.pairwise_cons.1 hfs
    obtain ⟨c0, m, c1, hl0, hv0, hl1, hv1, h1⟩ := hfile f List.mem_cons_self
    have h0 := readStr_of_file hl0 hv0
    rw [reversePatches, List.filterMap_cons]
    by_cases hh : (cfg.diff c1 c0).hunks = []
    · -- no patch is stored for `f`: the diff has no hunks, the edits left its bytes as they were
      rw [patchFor_of_read h0 h1, if_pos (List.isEmpty_iff.2 hh)]
      refine ih hfs hk (fun k hkf => ?_) fun g hg => hfile g (List.mem_cons_of_mem _ hg)
      by_cases hkf' : k = f
      · rw [hkf', hl1, hl0, hc.eq_of_noHunks hh]
      · exact hout k fun hm => (List.mem_cons.1 hm).elim hkf' hkf
    · rw [patchFor_of_read h0 h1, if_neg (mt List.isEmpty_iff.1 hh), applyPatches, applyOne_good hc _ hl1 hv1 hh]
      refine ih hfs ((keys_setContent _ _ _).trans hk) (fun k hkf => ?_) fun g hg => ?_
      · rw [lookup_setContent]
        by_cases hkf' : k = f
        · rw [if_pos hkf', hkf', hl1, hl0]; rfl
        · rw [if_neg hkf']; exact hout k fun hm => (List.mem_cons.1 hm).elim hkf' hkf
      · obtain ⟨c0', m', c1', hg0, hgv0, hg1, rest⟩ := hfile g (List.mem_cons_of_mem _ hg)
        exact ⟨c0', m', c1', hg0, hgv0, by rw [lookup_setContent, if_neg (hne g hg).symm]; exact hg1, rest⟩

end UndoLemmas
