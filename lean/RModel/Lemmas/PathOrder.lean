import RModel.Model.Apply
/- The order of `PathBuf` keys in the `BTreeMap` that groups the content edits by file (`apply.rs`, STEP 2): `Apply.pathLt`
   is a strict total order, hence `Apply.sortedFiles` has no duplicates — for EVERY list of hunks.  Used by `Props/C01.lean`
   (nothing is asked of the edited files there) and `Props/Compose.lean`. -/
namespace PathOrder
open Apply Fs

/-- the shape shared by `bytesLt` and `pathLt` -/
def lexLt {α : Type} (lt : α → α → Bool) : List α → List α → Bool
  | [], [] => false
  | [], _ :: _ => true
  | _ :: _, [] => false
  | a :: as, b :: bs => if lt a b then true else if lt b a then false else lexLt lt as bs

structure StrictTotal {α : Type} (lt : α → α → Bool) : Prop where
  irrefl : ∀ a, lt a a = false
  trans : ∀ a b c, lt a b = true → lt b c = true → lt a c = true
  total : ∀ a b, lt a b = false → lt b a = false → a = b

theorem StrictTotal.asymm {α : Type} {lt : α → α → Bool} (h : StrictTotal lt) {a b : α} (hab : lt a b = true) :
    lt b a = false := by
  cases hba : lt b a with
  | false => rfl
  | true => have := h.trans a b a hab hba; rw [h.irrefl] at this; cases this

theorem lexLt_irrefl {α : Type} {lt : α → α → Bool} (h : StrictTotal lt) : ∀ l : List α, lexLt lt l l = false
  | [] => rfl
  | a :: as => by
    rw [lexLt, h.irrefl, if_neg Bool.false_ne_true, if_neg Bool.false_ne_true]
    exact lexLt_irrefl h as

theorem lexLt_cons_iff {α : Type} {lt : α → α → Bool} (h : StrictTotal lt) (a b : α) (as bs : List α) :
    lexLt lt (a :: as) (b :: bs) = true ↔ lt a b = true ∨ (a = b ∧ lexLt lt as bs = true) := by
  rw [lexLt]
  by_cases h1 : lt a b = true
  · rw [if_pos h1]; exact ⟨fun _ => Or.inl h1, fun _ => rfl⟩
  · rw [if_neg h1]
    by_cases h2 : lt b a = true
    · rw [if_pos h2]
      exact ⟨fun hx => (nomatch hx), fun hx => hx.elim (absurd · h1) fun hx => absurd (hx.1 ▸ h2) h1⟩
    · rw [if_neg h2]
      exact ⟨fun hx => Or.inr ⟨h.total a b (Bool.eq_false_iff.2 h1) (Bool.eq_false_iff.2 h2), hx⟩,
        fun hx => hx.elim (absurd · h1) (·.2)⟩

theorem lexLt_trans {α : Type} {lt : α → α → Bool} (h : StrictTotal lt) :
    ∀ (x y z : List α), lexLt lt x y = true → lexLt lt y z = true → lexLt lt x z = true
  | [], [], _, h1, _ => nomatch h1
  | _ :: _, [], _, h1, _ => nomatch h1
  | _, _ :: _, [], _, h2 => nomatch h2
  | [], _ :: _, _ :: _, _, _ => rfl
  | a :: as, b :: bs, c :: cs, h1, h2 => by
    rw [lexLt_cons_iff h] at h1 h2 ⊢
    rcases h1 with h1 | ⟨rfl, h1⟩
    · exact Or.inl (h2.elim (h.trans a b c h1) fun e => e.1 ▸ h1)
    · exact h2.imp id fun e => ⟨e.1, lexLt_trans h as bs cs h1 e.2⟩

theorem lexLt_total {α : Type} {lt : α → α → Bool} (h : StrictTotal lt) :
    ∀ (x y : List α), lexLt lt x y = false → lexLt lt y x = false → x = y
  | [], [], _, _ => rfl
  | [], _ :: _, h1, _ => nomatch h1
  | _ :: _, [], _, h2 => nomatch h2
  | a :: as, b :: bs, h1, h2 => by
    rw [← Bool.not_eq_true, lexLt_cons_iff h, not_or] at h1 h2
    have hab := h.total a b (Bool.eq_false_iff.2 h1.1) (Bool.eq_false_iff.2 h2.1)
    subst hab
    rw [lexLt_total h as bs (Bool.eq_false_iff.2 fun hx => h1.2 ⟨rfl, hx⟩) (Bool.eq_false_iff.2 fun hx => h2.2 ⟨rfl, hx⟩)]

theorem lexLt_strictTotal {α : Type} {lt : α → α → Bool} (h : StrictTotal lt) : StrictTotal (lexLt lt) :=
  ⟨lexLt_irrefl h, lexLt_trans h, lexLt_total h⟩

def byteLt (a b : UInt8) : Bool := decide (a.toNat < b.toNat)

theorem byteLt_strictTotal : StrictTotal byteLt :=
  ⟨fun _ => decide_eq_false (Nat.lt_irrefl _),
   fun _ _ _ h1 h2 => decide_eq_true (Nat.lt_trans (of_decide_eq_true h1) (of_decide_eq_true h2)),
   fun _ _ h1 h2 => UInt8.toNat_inj.mp
     (Nat.le_antisymm (Nat.le_of_not_lt (of_decide_eq_false h2)) (Nat.le_of_not_lt (of_decide_eq_false h1)))⟩

theorem bytesLt_eq : bytesLt = lexLt byteLt := by
  funext a b
  induction a generalizing b with
  | nil => cases b <;> rfl
  | cons a as ih =>
    cases b with
    | nil => rfl
    | cons b bs => rw [bytesLt, lexLt, ih]; simp only [byteLt, decide_eq_true_eq]

theorem pathLt_eq : pathLt = lexLt bytesLt := by
  funext a b
  induction a generalizing b with
  | nil => cases b <;> rfl
  | cons a as ih =>
    cases b with
    | nil => rfl
    | cons b bs => rw [pathLt, lexLt, ih]

theorem bytesLt_strictTotal : StrictTotal bytesLt := bytesLt_eq ▸ lexLt_strictTotal byteLt_strictTotal

/-- `PathBuf`'s `Ord` (component-wise, components bytewise) is a strict total order -/
theorem pathLt_strictTotal : StrictTotal pathLt := pathLt_eq ▸ lexLt_strictTotal bytesLt_strictTotal

def Asc (l : List Path) : Prop := l.Pairwise (fun a b => pathLt a b = true)

theorem mem_insertPath {p x : Path} {l : List Path} : x ∈ insertPath p l ↔ x = p ∨ x ∈ l := by
  induction l with
  | nil => rw [insertPath, List.mem_singleton, List.mem_nil_iff, or_false]
  | cons q qs ih =>
    rw [insertPath]
    by_cases h : (p == q) = true
    · rw [if_pos h, beq_iff_eq.1 h, List.mem_cons, ← or_assoc, or_self]
    · rw [if_neg h]
      by_cases hlt : pathLt p q = true
      · rw [if_pos hlt]; exact List.mem_cons
      · rw [if_neg hlt, List.mem_cons, ih, List.mem_cons, or_left_comm]

theorem insertPath_asc (p : Path) {l : List Path} (h : Asc l) : Asc (insertPath p l) := by
  induction l with
  | nil => exact List.pairwise_singleton _ _
  | cons q qs ih =>
    have hq := List.pairwise_cons.mp h
    rw [insertPath]
    by_cases hne : (p == q) = true
    · rwa [if_pos hne]
    · rw [if_neg hne]
      by_cases hlt : pathLt p q = true
      · rw [if_pos hlt]
        exact List.pairwise_cons.mpr ⟨List.forall_mem_cons.2
          ⟨hlt, fun x hx => pathLt_strictTotal.trans _ _ _ hlt (hq.1 x hx)⟩, h⟩
      · rw [if_neg hlt]
        refine List.pairwise_cons.mpr ⟨fun x hx => ?_, ih hq.2⟩
        rcases mem_insertPath.1 hx with rfl | hx
        · exact Decidable.by_contra fun hqp => hne (beq_iff_eq.2
            (pathLt_strictTotal.total x q (Bool.eq_false_iff.2 hlt) (Bool.eq_false_iff.2 hqp)))
        · exact hq.1 x hx

theorem foldl_insertPath_asc (hs : List Hunk) : ∀ (acc : List Path), Asc acc →
    Asc (hs.foldl (fun acc h => insertPath h.file acc) acc) := by
  induction hs with
  | nil => intro acc h; exact h
  | cons x xs ih => intro acc h; exact ih _ (insertPath_asc x.file h)

theorem sortedFiles_asc (hs : List Hunk) : Asc (sortedFiles hs) :=
  foldl_insertPath_asc hs [] List.Pairwise.nil

theorem sortedFiles_nodup (hs : List Hunk) : (sortedFiles hs).Pairwise (fun a b => a ≠ b) := by
  refine (sortedFiles_asc hs).imp ?_
  intro a b h hab
  exact Bool.eq_false_iff.1 (pathLt_strictTotal.irrefl b) (hab ▸ h)

theorem mem_foldl_insertPath (x : Path) (hs : List Hunk) : ∀ (acc : List Path),
    x ∈ hs.foldl (fun acc h => insertPath h.file acc) acc ↔ x ∈ acc ∨ ∃ h ∈ hs, h.file = x := by
  induction hs with
  | nil => exact fun acc => ⟨.inl, fun h => h.elim id fun ⟨_, hm, _⟩ => nomatch hm⟩
  | cons h0 hs ih =>
    intro acc
    rw [List.foldl_cons, ih, mem_insertPath, or_comm (a := x = h0.file), or_assoc, @eq_comm _ x]
    simp only [List.mem_cons, or_and_right, exists_or, exists_eq_left]

theorem mem_sortedFiles {x : Path} {hs : List Hunk} : x ∈ sortedFiles hs ↔ ∃ h ∈ hs, h.file = x := by
  rw [sortedFiles, mem_foldl_insertPath, List.mem_nil_iff, false_or]

end PathOrder
