import RModel.Model.Output
import RModel.Lemmas.ListFacts
/-
  Facts about the output model (`Model/Output.lean`) that do not depend on what C19 claims.

  * The table: `rows` of a command are its option combinations (`combos`) × its failing sites (`rowsOf_eq`).  The thirteen
    rows of a combination of `replace` that differ in the failing site run the same handler on the same guard values up to
    that site, and a run costs far more than judging its outcome; `runSites` runs a combination once and records the trace
    at every fallible site it passes, `run_eq` reads the trace of each failing site off that run, and `rows_of_sweep` turns one
    kernel pass in that form into a statement about every row.
  * Options a handler does not consult: `outcome_eq_of_blind`.
-/
namespace Output

theorem check_eq_true {r : Row} {f : Outcome → Bool} : check r f = true ↔ ∃ o, outcome r = some o ∧ f o = true := by
  unfold check
  cases outcome r <;> simp

theorem mem_jsonRows {r : Row} : r ∈ jsonRows ↔ r ∈ rows ∧ r.json = true := List.mem_filter

theorem mem_cmd_all (c : Cmd) : c ∈ Cmd.all := by cases c <;> decide

theorem oneDocument_all_isJson {o : Outcome} (h : oneDocument o = true) : o.stdout.all Payload.isJson = true := by
  unfold oneDocument at h
  split at h
  next p hp => simp [hp, (Bool.and_eq_true _ _ ▸ h).1]
  next => cases h

def combos (cmd : Cmd) : List Row :=
  bools.flatMap fun json =>
  (opt (acceptsQuiet cmd)).flatMap fun quiet =>
  (opt (acceptsDryRun cmd)).flatMap fun dryRun =>
  (opt (usesYes cmd)).flatMap fun yes =>
  (opt (acceptsPreview cmd)).flatMap fun preview =>
  (opt (cmd == .replace)).flatMap fun noRegex =>
  (opt (cmd == .replace && !preview && noRegex)).flatMap fun commit =>
  (opt (scansTree cmd)).map fun planEmpty =>
    { cmd, json, quiet, dryRun, yes, preview, noRegex, commit, planEmpty, failAt := none }

theorem rowsOf_eq (c : Cmd) :
    rowsOf c = (combos c).flatMap fun r => (failSites c).map fun f => { r with failAt := f } := by
  simp only [rowsOf, combos, List.flatMap_assoc, List.flatMap_map]

theorem cmd_of_mem_combos {c : Cmd} {r : Row} (h : r ∈ combos c) : r.cmd = c := by
  simp only [combos, List.mem_flatMap, List.mem_map] at h
  obtain ⟨_, _, _, _, _, _, _, _, _, _, _, _, _, _, _, _, rfl⟩ := h
  rfl

theorem atomVal_failAt (r : Row) (f : Option Nat) (d : Name × Bool × Bool × Bool) :
    atomVal { r with failAt := f } d = atomVal r d := by
  funext a; cases a <;> rfl

/-- the run in which nothing fails: the trace at every fallible site it passes, and the final trace -/
def runSites (v : Atom → Bool) : List GEv → Trace → List (Nat × Name × Trace) × Trace
  | [], t => ([], t)
  | e :: rest, t =>
    if holds v e.guard then
      match e.ev with
      | .out p _ => runSites v rest { t with outs := t.outs ++ [p] }
      | .err => runSites v rest { t with errs := t.errs + 1 }
      | .ret => ([], t)
      | .fail k c => let r := runSites v rest t; ((k, c, t) :: r.1, r.2)
      | .call f => runSites v rest { t with calls := t.calls ++ [f] }
    else runSites v rest t

/-- the trace when site `f` fails: cut at the first passage of that site, the whole run if it is never passed -/
def traceAt (s : List (Nat × Name × Trace) × Trace) : Option Nat → Trace
  | none => s.2
  | some k => match s.1.find? (·.1 == k) with
    | some (_, c, t) => { t with failed := some c }
    | none => s.2

theorem run_eq (v : Atom → Bool) (f : Option Nat) :
    ∀ (evs : List GEv) (t : Trace), run v f evs t = traceAt (runSites v evs t) f
  | [], t => by cases f <;> rfl
  | ⟨g, ev⟩ :: rest, t => by
    have ih := run_eq v f rest
    unfold run runSites
    by_cases hg : holds v g = true
    · simp only [hg, if_true]
      cases ev with
      | ret => cases f <;> rfl
      | fail k c =>
        -- the site is passed: it is where the run stops if it is the failing one, and is skipped otherwise
        cases f with
        | none => simpa [traceAt] using ih t
        | some k' =>
          by_cases h : k' = k
          · subst h; simp [traceAt]
          · simpa [traceAt, h, Ne.symm h, List.find?_cons] using ih t
      | _ => exact ih _
    · simp only [hg, Bool.false_eq_true, if_false]
      exact ih t

/-- main's Ok / Err arm on top of the handler's trace (the second half of `outcome`) -/
def finish (json : Bool) (t : Trace) : Outcome :=
  match t.failed with
  | none => { stdout := t.outs, stderrSites := t.errs, exitZero := Gen.exitOk == 0, performed := t.calls, failed := false }
  | some c => { stdout := t.outs ++ (if json && Gen.errArmJsonDoc then [errorDoc] else [])
                              ++ List.replicate Gen.errArmStdoutSites .text,
                stderrSites := t.errs + Gen.errArmStderrSites,
                exitZero := errCodes.any (· == 0),
                performed := t.calls.filter (· != c), failed := true }

theorem outcome_eq {r : Row} {d : Name × Bool × Bool × Bool} {evs : List GEv} (h : eventsOf r.cmd = some (d, evs)) :
    outcome r = some (finish r.json (run (atomVal r d) r.failAt evs ⟨[], 0, [], none⟩)) := by
  unfold outcome finish
  rw [h]
  dsimp only
  cases (run (atomVal r d) r.failAt evs ⟨[], 0, [], none⟩).failed <;> rfl

/-- One pass over combinations × failing sites, each combination run once, says `F` of every row of the table and its
    outcome (`F` gets the row's command first, so that what depends on the command alone is computed once per command). -/
theorem rows_of_sweep {F : Cmd → Row → Outcome → Bool}
    (h : (Cmd.all.all fun c => match eventsOf c with
      | none => false
      | some (d, evs) => (combos c).all fun r =>
          let s := runSites (atomVal r d) evs ⟨[], 0, [], none⟩
          (failSites c).all fun f => F c { r with failAt := f } (finish r.json (traceAt s f))) = true)
    {r : Row} (hr : r ∈ rows) : ∃ o, outcome r = some o ∧ F r.cmd r o = true := by
  obtain ⟨c, hc, hrc⟩ := List.mem_flatMap.mp hr
  rw [rowsOf_eq] at hrc
  obtain ⟨r0, hr0, hrf⟩ := List.mem_flatMap.mp hrc
  obtain ⟨f, hf, rfl⟩ := List.mem_map.mp hrf
  have hs := List.all_eq_true.mp h c hc
  have hcmd : r0.cmd = c := cmd_of_mem_combos hr0
  cases he : eventsOf c with
  | none => simp [he] at hs
  | some p =>
    obtain ⟨d, evs⟩ := p
    simp only [he, List.all_eq_true] at hs
    refine ⟨_, outcome_eq (r := { r0 with failAt := f }) (hcmd ▸ he), ?_⟩
    rw [atomVal_failAt, run_eq]
    exact hcmd ▸ hs r0 hr0 f hf

/-- a row of command `c` with property `p` is in the table as soon as one is found among the option combinations and
    failing sites of `c` (which the kernel reaches without listing the rows of the commands before `c`) -/
theorem rows_any {c : Cmd} {p : Row → Bool}
    (h : ((combos c).any fun r => (failSites c).any fun f => p { r with failAt := f }) = true) :
    (rows.any fun r => r.cmd == c && p r) = true := by
  obtain ⟨r0, hr0, h⟩ := List.any_eq_true.mp h
  obtain ⟨f, hf, h⟩ := List.any_eq_true.mp h
  refine List.any_eq_true.mpr ⟨{ r0 with failAt := f }, List.mem_flatMap.mpr ⟨c, mem_cmd_all c, ?_⟩, ?_⟩
  · rw [rowsOf_eq]
    exact List.mem_flatMap.mpr ⟨r0, hr0, List.mem_map.mpr ⟨f, hf, rfl⟩⟩
  · exact (Bool.and_eq_true _ _).mpr ⟨beq_iff_eq.mpr (cmd_of_mem_combos hr0 :), h⟩

/-- the guard is false under `--output json`, or consults none of the atoms `as` -/
def blind (as : List Atom) (g : List Lit) : Bool :=
  g.contains ⟨.json, false⟩ || g.all fun l => !as.contains l.atom

theorem holds_eq_of_blind {v v' : Atom → Bool} {as : List Atom} {g : List Lit} (hj : v .json = true) (hj' : v' .json = true)
    (hv : ∀ a, as.contains a = false → v' a = v a) (hb : blind as g = true) : holds v' g = holds v g := by
  unfold blind at hb
  cases hc : g.contains ⟨.json, false⟩ with
  | true =>
    have hm := List.contains_iff_mem.mp hc
    have h0 : ∀ w : Atom → Bool, w .json = true → holds w g = false := fun w hw =>
      List.all_eq_false.mpr ⟨_, hm, by simp [hw]⟩
    rw [h0 v hj, h0 v' hj']
  | false =>
    rw [hc, Bool.false_or, List.all_eq_true] at hb
    exact List.all_congr_mem fun l hl => by rw [hv l.atom (by simpa using hb l hl)]

theorem run_congr {v v' : Atom → Bool} (f : Option Nat) :
    ∀ (evs : List GEv) (t : Trace), (∀ e ∈ evs, holds v' e.guard = holds v e.guard) → run v' f evs t = run v f evs t
  | [], _, _ => rfl
  | e :: rest, t, h => by
    have ih := fun t => run_congr f rest t fun e he => h e (List.mem_cons_of_mem _ he)
    unfold run
    rw [h e List.mem_cons_self]
    split
    · split <;> simp only [ih]
    · exact ih t

def allHandlers (P : (Name × Bool × Bool × Bool) → List GEv → Bool) : Bool :=
  Cmd.all.all fun c => match eventsOf c with
    | some (d, evs) => P d evs
    | none => true

/-- Two command lines that differ only in options which no handler consults outside a `json = false` branch have the same
    outcome under `--output json`. -/
theorem outcome_eq_of_blind {r r' : Row} (as : (Name × Bool × Bool × Bool) → List Atom)
    (hc : r'.cmd = r.cmd) (hf : r'.failAt = r.failAt) (hj : r.json = true) (hj' : r'.json = true)
    (hv : ∀ d a, (as d).contains a = false → atomVal r' d a = atomVal r d a)
    (hb : allHandlers (fun d evs => evs.all fun e => blind (as d) e.guard) = true) :
    outcome r' = outcome r := by
  unfold outcome
  rw [hc, hf, hj, hj']
  have hb := List.all_eq_true.mp hb r.cmd (mem_cmd_all _)
  cases he : eventsOf r.cmd with
  | none => rfl
  | some p =>
    obtain ⟨d, evs⟩ := p
    simp only [he, List.all_eq_true] at hb
    simp only [run_congr r.failAt evs _ fun e h => holds_eq_of_blind (as := as d) hj hj' (hv d) (hb e h)]

end Output
