import RModel.Model.LinePipeline
import RModel.Lemmas.CaseModelStyles
/-
  C06, clause 3: what `can_match_style` implies about a text (first letter, upper/lower-case letters), for every text, and
  the resolver's fallback chain returns a member of the list of styles compatible with the match.
-/
open B CaseModel

namespace LinePipeline

theorem checkCase_ne_nil {A : Acr} {text : Bytes} {c : CaseConstraint} (h : checkCase A text c = true) : text ≠ [] := by
  intro hn; subst hn; simp [checkCase] at h

theorem checkCase_allUpper {A : Acr} {c : UInt8} {cs : Bytes} (h : checkCase A (c :: cs) .allUppercase = true) :
    hasLower (c :: cs) = false := by
  simpa [checkCase] using h

theorem checkCase_allLower {A : Acr} {c : UInt8} {cs : Bytes} (h : checkCase A (c :: cs) .allLowercase = true) :
    hasUpper (c :: cs) = false := by
  simpa [checkCase] using h

/-- the per-word test of `TitleWordsPattern`; on the whole text it is `TitlePattern` -/
def okWord (w : Bytes) : Bool :=
  match w with
  | [] => false
  | c :: cs => isUpper c && cs.all (fun x => isLower x || !isAlpha x)

theorem okWord_cons {c : UInt8} {cs : Bytes} (h : okWord (c :: cs) = true) :
    isUpper c = true ∧ cs.any isUpper = false := by
  simp only [okWord, Bool.and_eq_true, List.all_eq_true] at h
  refine ⟨h.1, List.any_eq_false.mpr fun x hx hu => ?_⟩
  have := h.2 x hx
  cc

theorem checkCase_title {A : Acr} {c : UInt8} {cs : Bytes} (h : checkCase A (c :: cs) .titlePattern = true) :
    isUpper c = true ∧ cs.any isUpper = false :=
  okWord_cons h

theorem checkCase_camel {A : Acr} {c : UInt8} {cs : Bytes} (h : checkCase A (c :: cs) .camelPattern = true) :
    isLower c = true := by
  simp only [checkCase, Bool.and_eq_true] at h; exact h.1

theorem checkCase_pascal {A : Acr} {c : UInt8} {cs : Bytes} (h : checkCase A (c :: cs) .pascalPattern = true) :
    isUpper c = true ∧ hasConsecutiveUpper A (c :: cs) = false := by
  simp only [checkCase, Bool.and_eq_true, Bool.not_eq_true'] at h; exact h

theorem splitOn_go_first (d : UInt8) : ∀ (s cur : Bytes), ∃ ps,
    splitOn.go d s cur = (cur.reverse ++ s.takeWhile (fun x => !(x == d))) :: ps
  | [], cur => ⟨[], by simp [splitOn.go]⟩
  | y :: ys, cur => by
    by_cases hy : (y == d) = true
    · exact ⟨splitOn.go d ys [], by simp [splitOn.go, hy, List.takeWhile]⟩
    · obtain ⟨ps, h⟩ := splitOn_go_first d ys (y :: cur)
      exact ⟨ps, by simp [splitOn.go, hy, h, List.takeWhile]⟩

theorem checkCase_titleWords {A : Acr} {text : Bytes} (h : checkCase A text .titleWordsPattern = true) :
    (splitOn text 32).all okWord = true ∧ okWord (text.takeWhile (fun x => !(x == 32))) = true := by
  cases text with
  | nil => simp [checkCase] at h
  | cons c cs =>
    have hall : (splitOn (c :: cs) 32).all okWord = true := h
    obtain ⟨ps, hp⟩ := splitOn_go_first 32 (c :: cs) []
    refine ⟨hall, ?_⟩
    have := List.all_eq_true.mp hall _ (by rw [splitOn, hp]; exact List.mem_cons_self ..)
    simpa using this

theorem checkCase_titleWords_head {A : Acr} {c : UInt8} {cs : Bytes}
    (h : checkCase A (c :: cs) .titleWordsPattern = true) : isUpper c = true := by
  have := (checkCase_titleWords h).2
  by_cases hc : (c == 32) = true
  · simp [List.takeWhile, hc, okWord] at this
  · simp only [List.takeWhile, hc, Bool.not_false] at this
    exact (okWord_cons this).1

/-- does a text satisfying the pattern start with an upper-case letter (given that it starts with a letter) -/
def kindUpper : CaseConstraint → Bool
  | .allLowercase | .camelPattern => false
  | _ => true

/-- the generated constraint table and the renderer agree on the case of the first letter, style by style -/
theorem table_first_letter (st : Style) : kindUpper (Gen.styleConstraints st).1 = st.casing.1.firstUp := by
  cases st <;> rfl

theorem checkCase_first {A : Acr} {c : UInt8} {cs : Bytes} {k : CaseConstraint} (h : checkCase A (c :: cs) k = true)
    (hc : isAlpha c = true) : isUpper c = kindUpper k := by
  cases k with
  | allUppercase =>
    have := checkCase_allUpper h
    simp only [hasLower, List.any_cons, Bool.or_eq_false_iff] at this
    show isUpper c = true
    simpa [isAlpha, this.1] using hc
  | allLowercase =>
    have := checkCase_allLower h
    simp only [hasUpper, List.any_cons, Bool.or_eq_false_iff] at this
    exact this.1
  | titlePattern => exact (checkCase_title h).1
  | camelPattern => exact lower_not_upper (checkCase_camel h)
  | pascalPattern => exact (checkCase_pascal h).1
  | titleWordsPattern => exact checkCase_titleWords_head h

theorem capitalizeFirst_head {d : UInt8} (t : Bytes) (hd : isAlpha d = true) :
    ∃ e r, capitalizeFirst (d :: t) = e :: r ∧ isUpper e = true := by
  simp only [capitalizeFirst]
  split
  · rename_i h
    simp only [List.all_cons, Bool.and_eq_true] at h
    exact ⟨d, t, rfl, h.1.1⟩
  · exact ⟨_, _, rfl, isUpper_toUpper_alpha hd⟩

theorem capOrKeep_head {A : Acr} {d : UInt8} (t : Bytes) (hd : isAlpha d = true) :
    ∃ e r, capOrKeep A (d :: t) = e :: r ∧ isUpper e = true := by
  unfold capOrKeep
  split
  · rename_i hk
    simp only [keepAcr, List.all_cons, Bool.and_eq_true] at hk
    exact ⟨d, t, rfl, hk.1.1⟩
  · exact capitalizeFirst_head t hd

theorem joinWith_head (sep : Bytes) (e : UInt8) (r : Bytes) (rs : List Bytes) :
    ∃ r', joinWith sep ((e :: r) :: rs) = e :: r' := by
  cases rs with
  | nil => exact ⟨r, rfl⟩
  | cons b l => exact ⟨r ++ sep ++ joinWith sep (b :: l), rfl⟩

theorem fn_head (A : Acr) (k : Casing) {d : UInt8} (t : Bytes) (hd : isAlpha d = true) :
    ∃ e r, k.fn A (d :: t) = e :: r ∧ isUpper e = k.firstUp := by
  cases k with
  | lower => exact ⟨_, _, rfl, isUpper_toLower d⟩
  | upper => exact ⟨_, _, rfl, isUpper_toUpper_alpha hd⟩
  | cap => exact capitalizeFirst_head t hd
  | capKeep => exact capOrKeep_head t hd

theorem toStyle_first {A : Acr} {d : UInt8} (t : Bytes) (ts : List Bytes) (st : Style) (hd : isAlpha d = true) :
    ∃ e r, toStyle A ((d :: t) :: ts) st = e :: r ∧ isUpper e = st.casing.1.firstUp := by
  obtain ⟨e, r, he, hu⟩ := fn_head A st.casing.1 t hd
  rw [toStyle_eq, cased, he]
  cases st.sep with
  | none => exact ⟨e, r ++ concat _, rfl, hu⟩
  | some s =>
    obtain ⟨r', h'⟩ := joinWith_head [s] e r (ts.map (st.casing.2.fn A))
    exact ⟨e, r', h', hu⟩

theorem canMatch_keeps_first_letter {A : Acr} {c d : UInt8} {cs t : Bytes} {ts : List Bytes} {st : Style}
    (h : canMatchStyle A (c :: cs) st = true) (hc : isAlpha c = true) (hd : isAlpha d = true) :
    ∃ e r, toStyle A ((d :: t) :: ts) st = e :: r ∧ isUpper e = isUpper c := by
  simp only [canMatchStyle, Bool.and_eq_true] at h
  obtain ⟨e, r, he, hu⟩ := toStyle_first (A := A) t ts st hd
  exact ⟨e, r, he, by rw [hu, checkCase_first h.1 hc, table_first_letter]⟩

def kindAllUpper : CaseConstraint → Bool
  | .allUppercase => true
  | _ => false

def styleAllUpper : Style → Bool
  | .screamingSnake | .screamingTrain | .upperSentence | .upperFlat => true
  | _ => false

theorem table_all_upper (st : Style) : kindAllUpper (Gen.styleConstraints st).1 = styleAllUpper st := by
  cases st <;> rfl

theorem any_lower_map_upper (ts : List Bytes) : (ts.map upper).any (fun r => r.any isLower) = false := by
  apply any_any_false
  intro r hr x hx
  obtain ⟨w, _, rfl⟩ := List.mem_map.mp hr
  obtain ⟨y, _, rfl⟩ := List.mem_map.mp hx
  cases hl : isLower y with
  | true => exact upper_not_lower (toUpper_of_lower hl)
  | false => rw [toUpper_id hl]; exact hl

theorem toStyle_all_upper {A : Acr} (toks : List Bytes) {st : Style} (h : styleAllUpper st = true) :
    hasLower (toStyle A toks st) = false := by
  have join : ∀ d : UInt8, isLower d = false → hasLower (joinWith [d] (toks.map upper)) = false := fun d hd => by
    rw [hasLower, any_joinWith_of_not_sep isLower hd, any_lower_map_upper]
  cases st with
  | screamingSnake | screamingTrain | upperSentence => exact join _ (by decide)
  | upperFlat => rw [toStyle, hasLower, any_concat, any_lower_map_upper]
  | _ => exact absurd h (by decide)

/-- an all-upper-case text (starting with two capitals, not read as an acronym run) is compatible only with styles that
    render every replacement without lower-case letters -/
theorem canMatch_keeps_all_upper {A : Acr} {c c' : UInt8} {cs : Bytes} {st : Style} (toks : List Bytes)
    (h : canMatchStyle A (c :: c' :: cs) st = true) (hc : isUpper c = true) (hc' : isUpper c' = true)
    (hcu : hasConsecutiveUpper A (c :: c' :: cs) = true) : hasLower (toStyle A toks st) = false := by
  simp only [canMatchStyle, Bool.and_eq_true] at h
  apply toStyle_all_upper
  rw [← table_all_upper]
  generalize (Gen.styleConstraints st).1 = k at h
  cases k with
  | allUppercase => rfl
  | allLowercase =>
    have := checkCase_allLower h.1
    simp [hasUpper, hc] at this
  | titlePattern =>
    have := (checkCase_title h.1).2
    simp [hc'] at this
  | camelPattern => exact absurd (checkCase_camel h.1) (by rw [upper_not_lower hc]; decide)
  | pascalPattern => exact absurd (checkCase_pascal h.1).2 (by rw [hcu]; decide)
  | titleWordsPattern =>
    -- the first word starts with the two capitals
    have := (checkCase_titleWords h.1).2
    simp only [List.takeWhile, upper_ne_space hc, upper_ne_space hc', Bool.not_false] at this
    have := (okWord_cons this).2
    simp [hc'] at this

theorem mem_filterCompatible {A : Acr} {text : Bytes} {styles : List Style} {st : Style} :
    st ∈ filterCompatible A text styles ↔ st ∈ styles ∧ canMatchStyle A text st = true := by
  simp only [filterCompatible, List.mem_filter]

theorem filterCompatible_idem (A : Acr) (text : Bytes) (styles : List Style) :
    filterCompatible A text (filterCompatible A text styles) = filterCompatible A text styles := by
  simp only [filterCompatible, List.filter_filter, Bool.and_self]

theorem find?_contains_mem {l possible : List Style} {s : Style}
    (h : l.find? (fun x => possible.contains x) = some s) : s ∈ possible := by
  simpa using List.find?_some h

theorem defaultFallback_mem {A : Acr} {possible : List Style} (repl : Bytes) (rp : List Style) (hne : possible ≠ []) :
    defaultFallback A possible repl rp ∈ possible := by
  have hsub : ∀ s, s ∈ possible.filter (fun s => rp.contains s) → s ∈ possible := fun s hs => (List.mem_filter.mp hs).1
  unfold defaultFallback
  simp only []
  split
  · rename_i s hs
    exact hsub s (by rw [hs]; exact List.mem_singleton.mpr rfl)
  · split
    · rename_i s hs
      split at hs
      · exact absurd hs (by simp)
      · split at hs
        · split at hs
          · rename_i rs _ hc
            cases hs
            exact hsub _ (by simpa using hc)
          · exact hsub _ (find?_contains_mem hs)
        · exact hsub _ (find?_contains_mem hs)
    · split
      · rename_i s hs; exact find?_contains_mem hs
      · obtain ⟨a, l, rfl⟩ := List.exists_cons_of_ne_nil hne
        exact List.mem_cons_self ..

theorem replacementPreference_mem {A : Acr} {possible : List Style} (repl : Bytes) (rp : List Style) (hne : possible ≠ [])
    (hflat : possible.all isFlat = false) : replacementPreference A possible repl rp ∈ possible := by
  unfold replacementPreference
  split
  · split
    · rename_i hc; simpa using hc
    · split
      · rename_i hc; rw [hflat] at hc; exact absurd hc (by simp)
      · exact defaultFallback_mem repl rp hne
  · exact defaultFallback_mem repl rp hne

theorem canMatch_snake_of_lowerFlat {A : Acr} {text : Bytes} (h : canMatchStyle A text .lowerFlat = true) :
    canMatchStyle A text .snake = true := by
  simp only [canMatchStyle, Gen.styleConstraints, checkSep, Gen.allSeparators, List.all_cons, List.all_nil,
    Bool.and_eq_true, Bool.or_eq_true, Bool.not_eq_true', Bool.and_true] at h ⊢
  exact ⟨h.1, Or.inl (by decide), h.2.2⟩

/-- two or more compatible styles are never only the flat ones: a text that may be lower-flat may also be snake, which
    leaves upper-flat alone -/
theorem ambiguous_not_all_flat {A : Acr} {text : Bytes} (h : isAmbiguous A text Gen.allStyles = true) :
    (filterCompatible A text Gen.allStyles).all isFlat = false := by
  simp only [isAmbiguous, decide_eq_true_eq] at h
  cases hall : (filterCompatible A text Gen.allStyles).all isFlat with
  | false => rfl
  | true =>
    exfalso
    have hflat : filterCompatible A text Gen.allStyles = [Style.lowerFlat, .upperFlat].filter (canMatchStyle A text) := by
      rw [← List.filter_eq_self.mpr (List.all_eq_true.mp hall)]
      simp only [filterCompatible, List.filter_filter, Bool.and_comm]
      rw [← List.filter_filter]
      rfl
    cases hlf : canMatchStyle A text .lowerFlat with
    | true =>
      have hs := mem_filterCompatible.mpr ⟨(by decide : Style.snake ∈ Gen.allStyles), canMatch_snake_of_lowerFlat hlf⟩
      exact absurd (List.all_eq_true.mp hall _ hs) (by decide)
    | false =>
      have := List.length_filter_le (canMatchStyle A text) [Style.upperFlat]
      rw [hflat, List.filter_cons, hlf] at h
      simp only [Bool.false_eq_true, ↓reduceIte, List.length_cons, List.length_nil] at h this
      omega

/-- whatever the context heuristics say (as long as they pick from the list they are given), the style chosen for an
    ambiguous match is one of the styles compatible with the matched text -/
theorem resolve_mem {A : Acr} {heur : List Style → Option Style} {matched : Bytes} (repl : Bytes) (rp : List Style)
    (hamb : isAmbiguous A matched Gen.allStyles = true) (hh : ∀ l s, heur l = some s → s ∈ l) :
    resolve A heur matched repl rp ∈ filterCompatible A matched Gen.allStyles := by
  have hne : filterCompatible A matched Gen.allStyles ≠ [] := by
    intro h0
    simp [isAmbiguous, h0] at hamb
  unfold resolve
  simp only [hamb, Bool.not_true, Bool.false_eq_true, ↓reduceIte, filterCompatible_idem]
  split
  · rename_i he
    exact absurd (List.isEmpty_iff.mp he) hne
  · split
    · rename_i s hs; exact hh _ _ hs
    · exact replacementPreference_mem repl rp hne (ambiguous_not_all_flat hamb)

/-- the ambiguity branch of `generate_hunks` renders the replacement's tokens in a style compatible with the match -/
theorem baseReplacement_ambiguity {A : Acr} {env : Env} {vm : SMap} {x repl r : Bytes} (hh : env.HeurOk)
    (hb : baseReplacement A env vm x repl = some (.ambiguity, r)) :
    ∃ st ∈ filterCompatible A x Gen.allStyles, r = toStyle A (parse A repl) st := by
  unfold baseReplacement at hb
  split at hb
  · rename_i hamb
    simp only [Option.some.injEq, Prod.mk.injEq, true_and] at hb
    exact ⟨_, resolve_mem repl _ hamb hh, hb.symm⟩
  · cases hg : vm.get x <;> simp [hg] at hb

end LinePipeline
