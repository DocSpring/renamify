import RModel.Model.Matcher
import RModel.Lemmas.ListFacts
import RModel.Lemmas.Utf8
/- helper lemmas for C03: ordering of alternatives, the leftmost-first scan, lossy decoding of valid text -/
namespace Matcher

theorem escapeLen_append (a b : Bytes) : escapeLen (a ++ b) = escapeLen a + escapeLen b := by
  induction a with
  | nil => simp [escapeLen]
  | cons c cs ih => simp only [List.cons_append, escapeLen, ih]; omega

theorem escapeLen_pos {a : Bytes} (h : a ≠ []) : 0 < escapeLen a := by
  cases a with
  | nil => exact absurd rfl h
  | cons c cs => simp only [escapeLen]; split <;> omega

theorem escapeLen_lt_of_prefix {a b : Bytes} (hp : a <+: b) (hne : a.length < b.length) :
    escapeLen a < escapeLen b := by
  obtain ⟨t, rfl⟩ := hp
  have ht : t ≠ [] := fun h => by rw [h, List.append_nil] at hne; exact Nat.lt_irrefl _ hne
  rw [escapeLen_append]
  exact Nat.lt_add_of_pos_right (escapeLen_pos ht)

theorem mem_insertAlt {x a : Bytes} {l : List Bytes} : a ∈ insertAlt x l ↔ a = x ∨ a ∈ l := by
  induction l with
  | nil => simp [insertAlt]
  | cons y ys ih =>
    simp only [insertAlt]
    split
    · simp
    · simp only [List.mem_cons, ih, or_left_comm]

theorem mem_orderAlts {a : Bytes} {vs : List Bytes} : a ∈ orderAlts vs ↔ a ∈ vs := by
  induction vs with
  | nil => simp [orderAlts]
  | cons x xs ih => simp only [orderAlts, mem_insertAlt, ih, List.mem_cons]

theorem pairwise_insertAlt {x : Bytes} {l : List Bytes}
    (h : l.Pairwise (fun a b => escapeLen b ≤ escapeLen a)) :
    (insertAlt x l).Pairwise (fun a b => escapeLen b ≤ escapeLen a) := by
  induction l with
  | nil => simp [insertAlt]
  | cons y ys ih =>
    obtain ⟨hy, hys⟩ := List.pairwise_cons.mp h
    rw [insertAlt]
    split
    · next hle =>
      exact List.pairwise_cons.mpr ⟨List.forall_mem_cons.mpr ⟨hle, fun b hb => Nat.le_trans (hy b hb) hle⟩, h⟩
    · next hgt =>
      refine List.pairwise_cons.mpr ⟨fun b hb => ?_, ih hys⟩
      rcases mem_insertAlt.mp hb with rfl | hb
      · exact Nat.le_of_not_ge hgt
      · exact hy b hb

theorem pairwise_orderAlts (vs : List Bytes) :
    (orderAlts vs).Pairwise (fun a b => escapeLen b ≤ escapeLen a) := by
  induction vs with
  | nil => simp [orderAlts]
  | cons x xs ih => exact pairwise_insertAlt ih

theorem firstAlt_pred {a s : Bytes} : (!a.isEmpty && a.isPrefixOf s) = true ↔ a ≠ [] ∧ a <+: s := by
  simp only [Bool.and_eq_true, Bool.not_eq_true', List.isEmpty_eq_false_iff, List.isPrefixOf_iff_prefix]

theorem firstAlt_some {alts : List Bytes} {s a : Bytes} (h : firstAlt alts s = some a) :
    a ∈ alts ∧ a ≠ [] ∧ a <+: s := by
  have hp := List.find?_some h
  exact ⟨List.mem_of_find?_eq_some h, firstAlt_pred.mp hp⟩

/-- Leftmost-first over the escaped-length order IS leftmost-longest: alternatives that match at one
    position are prefixes of the input there, hence of each other, and a proper prefix has a strictly
    smaller escaped length (every byte escapes to at least one byte). -/
theorem firstAlt_longest {vs : List Bytes} {s a : Bytes} (h : firstAlt (orderAlts vs) s = some a)
    {v : Bytes} (hv : v ∈ vs) (hne : v ≠ []) (hp : v <+: s) : v.length ≤ a.length := by
  obtain ⟨_, _, hap⟩ := firstAlt_some h
  rcases List.find?_pairwise (pairwise_orderAlts vs) h (mem_orderAlts.mpr hv) (firstAlt_pred.mpr ⟨hne, hp⟩) with rfl | hle
  · exact Nat.le_refl _
  · -- v comes later: its escaped length is not larger, so it cannot properly extend a
    refine Nat.le_of_not_lt fun hlt => Nat.not_le_of_lt ?_ hle
    exact escapeLen_lt_of_prefix (List.prefix_of_prefix_length_le hap hp (Nat.le_of_lt hlt)) hlt

/-- an alternative stands at the raw match `se`, seen from the unread input `rest` that starts at `pos` -/
def Good (alts : List Bytes) (rest : Bytes) (pos : Nat) (se : Nat × Nat) : Prop :=
  ∃ a, a ∈ alts ∧ a ≠ [] ∧ se.2 = se.1 + a.length ∧ a <+: rest.drop (se.1 - pos)

theorem Good.cons {alts : List Bytes} {cs : Bytes} {pos k : Nat} {se : Nat × Nat} (c : UInt8)
    (h : pos + 1 + k ≤ se.1 ∧ Good alts cs (pos + 1) se) : pos + (k + 1) ≤ se.1 ∧ Good alts (c :: cs) pos se := by
  obtain ⟨hb, a, ha, hne, he, hp⟩ := h
  have hlt : pos < se.1 := by omega
  refine ⟨by omega, a, ha, hne, he, ?_⟩
  rwa [← Nat.sub_add_cancel (Nat.sub_pos_of_lt hlt), List.drop_succ_cons, ← Nat.sub_add_eq]

theorem scan_good (alts : List Bytes) : ∀ (rest : Bytes) (pos skip : Nat), ∀ se ∈ scan alts rest pos skip,
    pos + skip ≤ se.1 ∧ Good alts rest pos se
  | c :: cs, pos, skip + 1, se, h => Good.cons c (scan_good alts cs (pos + 1) skip se h)
  | c :: cs, pos, 0, se, h => by
    rw [scan] at h
    split at h
    · next a hfa =>
      rcases List.mem_cons.mp h with rfl | h
      · obtain ⟨ham, hane, hap⟩ := firstAlt_some hfa
        exact ⟨Nat.le_refl _, a, ham, hane, rfl, by simpa using hap⟩
      · exact (Good.cons c (scan_good alts cs (pos + 1) _ se h)).imp_left Nat.le_of_add_right_le
    · exact (Good.cons c (scan_good alts cs (pos + 1) 0 se h)).imp_left Nat.le_of_add_right_le

theorem scan_pairwise (alts : List Bytes) : ∀ (rest : Bytes) (pos skip : Nat),
    (scan alts rest pos skip).Pairwise (fun x y => x.2 ≤ y.1)
  | [], _, _ => List.Pairwise.nil
  | _ :: cs, pos, skip + 1 => scan_pairwise alts cs (pos + 1) skip
  | c :: cs, pos, 0 => by
    rw [scan]
    split
    · next a hfa =>
      refine List.pairwise_cons.mpr ⟨fun se hse => ?_, scan_pairwise alts cs (pos + 1) _⟩
      have := (scan_good alts cs (pos + 1) _ se hse).1
      have := List.length_pos_iff.mpr (firstAlt_some hfa).2.1
      show pos + a.length ≤ se.1
      omega
    · exact scan_pairwise alts cs (pos + 1) 0

theorem lossyAux_of_validAux : ∀ (fuel : Nat) (s : Bytes), Utf8.validAux fuel s = true → Utf8.lossyAux fuel s = s
  | 0, _, h => by rw [Utf8.validAux_zero h]; rfl
  | _ + 1, [], _ => rfl
  | fuel + 1, b :: bs, h => by
    obtain ⟨n, hn, hv⟩ := Utf8.validAux_cons h
    simp only [Utf8.lossyAux, hn]
    rw [lossyAux_of_validAux fuel _ hv, List.take_append_drop]

theorem lossy_of_valid {s : Bytes} (h : Utf8.valid s = true) : Utf8.lossy s = s :=
  lossyAux_of_validAux _ _ h

theorem slice_of_prefix_drop {a c : Bytes} {s : Nat} (h : a <+: c.drop s) :
    (c.take (s + a.length)).drop s = a := by
  obtain ⟨t, ht⟩ := h
  rw [List.drop_take, ← ht]
  simp

theorem prefix_drop_bound {a c : Bytes} {s : Nat} (h : a <+: c.drop s) (hne : a ≠ []) :
    s + a.length ≤ c.length := by
  have h1 := h.length_le
  have h2 : 0 < a.length := List.length_pos_iff.mpr hne
  simp only [List.length_drop] at h1
  omega

theorem scan_spec (vs : List Bytes) (c : Bytes) :
    ∀ se ∈ scan (orderAlts vs) c 0 0,
      se.1 < se.2 ∧ se.2 ≤ c.length ∧ (c.take se.2).drop se.1 ∈ vs := by
  intro se hse
  obtain ⟨_, a, ha, hne, he, hp⟩ := scan_good _ _ _ _ se hse
  simp only [Nat.sub_zero] at hp
  have hlen : 0 < a.length := List.length_pos_iff.mpr hne
  refine ⟨by omega, ?_, ?_⟩
  · rw [he]; exact prefix_drop_bound hp hne
  · rw [he, slice_of_prefix_drop hp]; exact mem_orderAlts.mp ha

/-- searching the text of a variant: the best candidate so far is a prefix of it, and once the variant itself has been seen it
    stays the best (no prefix of it is longer) -/
theorem longestPrefix_self {a : Bytes} : ∀ (vs : List Bytes) (best : Option Bytes), (∀ b, best = some b → b <+: a) →
    (a ∈ vs ∨ best = some a) →
    vs.foldl (fun best v =>
        if v.isPrefixOf a then
          match best with
          | none => some v
          | some b => if b.length < v.length then some v else some b
        else best) best = some a
  | [], _, _, h => h.resolve_left (by simp)
  | x :: xs, best, hb, h => by
    rw [List.foldl_cons]
    have hcons : a ∈ x :: xs → a ∈ xs ∨ some x = some a := fun h =>
      (List.mem_cons.mp h).symm.imp_right fun (e : a = x) => e ▸ rfl
    by_cases hx : x.isPrefixOf a = true
    · have hxp : x <+: a := List.isPrefixOf_iff_prefix.mp hx
      rw [if_pos hx]
      cases best with
      | none => exact longestPrefix_self xs _ (fun b hb' => by cases hb'; exact hxp) (h.elim hcons (by simp))
      | some b =>
        have hbp := hb b rfl
        by_cases hlt : b.length < x.length
        · simp only [if_pos hlt]
          refine longestPrefix_self xs _ (fun b' hb' => by cases hb'; exact hxp) (h.elim hcons fun h => ?_)
          cases h; exact absurd hxp.length_le (by omega)
        · simp only [if_neg hlt]
          refine longestPrefix_self xs _ hb (h.elim (fun h => ?_) Or.inr)
          -- `x` is `a` or comes later; a prefix of `a` that is not shorter is `a`
          refine (hcons h).imp_right fun e => ?_
          cases e
          exact congrArg some (hbp.eq_of_length_le (by omega))
    · rw [if_neg hx]
      refine longestPrefix_self xs best hb (h.imp_left fun h => ?_)
      rcases List.mem_cons.mp h with rfl | h
      · exact absurd (List.isPrefixOf_iff_prefix.mpr (List.prefix_refl _)) hx
      · exact h

theorem identifyVariant_self {vs : List Bytes} {a : Bytes} (ha : a ∈ vs) (hne : a ≠ []) :
    identifyVariant vs a = some a := by
  obtain ⟨c, cs, rfl⟩ := List.exists_cons_of_ne_nil hne
  have : longestPrefix vs (c :: cs) = some (c :: cs) := longestPrefix_self vs none (by simp) (Or.inl ha)
  simp only [identifyVariant, this]

end Matcher
