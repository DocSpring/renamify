import RModel.Model.Hunks
import RModel.Lemmas.Edits
/- helper lemmas for C15: the right-to-left merge of render_diff against the left-to-right splice -/
namespace Hunks
open Edits

/-- the edit a hunk describes, in line coordinates -/
def toEdit (h : Hunk) : Edit :=
  { before := h.content, after := h.replace, start := h.byteOffset, stop := h.byteOffset + h.content.length }

theorem mergeRun_append (a : Bytes) (xs ys : List Hunk) :
    mergeRun a (xs ++ ys) = (mergeRun a xs).bind (mergeRun · ys) := by
  induction xs generalizing a with
  | nil => rfl
  | cons x xs ih =>
    rw [List.cons_append, mergeRun, mergeRun]
    cases mergeStep a x with
    | none => rfl
    | some a' => exact ih a'

theorem mergeRun_singleton (a : Bytes) (h : Hunk) : mergeRun a [h] = mergeStep a h := by
  rw [mergeRun]
  cases mergeStep a h <;> rfl

theorem step_ok_replaceRange {orig m : Bytes} {e : Edit} {r : Bytes} (h : step orig m e = .ok r) :
    replaceRange m e.start e.stop e.after = some r := by
  change stepG true orig m e = .ok r at h
  revert h
  fun_cases stepG true orig m e <;> rintro ⟨⟩
  assumption

theorem replaceRange_guard {m r : Bytes} {a b : Nat} {out : Bytes} (h : replaceRange m a b r = some out) :
    a ≤ b ∧ b ≤ m.length ∧ isCharBoundary m a = true ∧ isCharBoundary m b = true := by
  unfold replaceRange at h
  split at h
  · assumption
  · cases h

theorem mergeStep_of_step {orig m r : Bytes} {h : Hunk} (hne : h.content ≠ [])
    (hpre : h.content <+: m.drop h.byteOffset) (hs : step orig m (toEdit h) = .ok r) : mergeStep m h = some r := by
  have hrr : replaceRange m h.byteOffset (h.byteOffset + h.content.length) h.replace = some r :=
    step_ok_replaceRange hs
  obtain ⟨_, g2, g3, _⟩ := replaceRange_guard hrr
  have hlt : h.byteOffset < m.length :=
    Nat.lt_of_lt_of_le (Nat.lt_add_of_pos_right (List.length_pos_iff.mpr hne)) g2
  rw [mergeStep, startsWithAt, if_pos hlt, g3, if_pos rfl, List.isPrefixOf_iff_prefix.mpr hpre]
  exact hrr

theorem mergeRun_reverse_eq_spec (line : Bytes) (off : Nat) (hs : List Hunk)
    (hne : ∀ h ∈ hs, h.content ≠ [])
    (hc : Consistent line off (hs.map toEdit)) :
    mergeRun line hs.reverse = some (line.take off ++ spec line off (hs.map toEdit)) := by
  induction hs generalizing off with
  | nil => exact congrArg some (List.take_append_drop off line).symm
  | cons h hs ih =>
    have hrest : Consistent line (toEdit h).stop (hs.map toEdit) := hc.2.2.2.2.2.2.2
    -- the apply loop one edit further, from the state the merge is in
    have hA := applyEdits_prefix line off _ hc
    rw [List.map_cons, applyEdits_cons, applyEdits_prefix line _ _ hrest] at hA
    rw [List.reverse_cons, mergeRun_append, ih _ (fun x hx => hne x (List.mem_cons_of_mem _ hx)) hrest,
      Option.bind_some, mergeRun_singleton]
    refine mergeStep_of_step (hne h List.mem_cons_self) ?_ hA
    -- the text of the hunk stands in the part of the line that no later hunk has touched
    obtain ⟨_, _, h3, _, _, hbefore, _⟩ := hc
    rw [List.drop_append_of_le_length (by rw [List.length_take_of_le h3]; exact Nat.le_add_right _ _)]
    exact hbefore ▸ List.prefix_append _ _

theorem insertDesc_append_of_lt (x : Hunk) (l : List Hunk) (h : ∀ y ∈ l, x.byteOffset < y.byteOffset) :
    insertDesc x l = l ++ [x] := by
  induction l with
  | nil => rfl
  | cons y ys ih =>
    have hy := h y List.mem_cons_self
    simp only [insertDesc]
    rw [if_neg (by omega), ih (fun z hz => h z (List.mem_cons_of_mem _ hz))]
    rfl

theorem sortDesc_of_ascending (hs : List Hunk) (h : hs.Pairwise (fun a b => a.byteOffset < b.byteOffset)) :
    sortDesc hs = hs.reverse := by
  induction hs with
  | nil => rfl
  | cons x xs ih =>
    obtain ⟨hx, hxs⟩ := List.pairwise_cons.mp h
    simp only [sortDesc, ih hxs, List.reverse_cons]
    exact insertDesc_append_of_lt x xs.reverse (fun y hy => hx y (List.mem_reverse.mp hy))

theorem ascending_of_consistent (line : Bytes) (off : Nat) (hs : List Hunk)
    (hne : ∀ h ∈ hs, h.content ≠ [])
    (hc : Consistent line off (hs.map toEdit)) :
    hs.Pairwise (fun a b => a.byteOffset < b.byteOffset) ∧ ∀ h ∈ hs, off ≤ h.byteOffset := by
  induction hs generalizing off with
  | nil => exact ⟨List.Pairwise.nil, nofun⟩
  | cons h hs ih =>
    obtain ⟨h1, _, _, _, _, _, _, hrest⟩ := hc
    obtain ⟨ihp, ihb⟩ := ih (toEdit h).stop (fun x hx => hne x (List.mem_cons_of_mem _ hx)) hrest
    have hlt : ∀ b ∈ hs, h.byteOffset < b.byteOffset := fun b hb =>
      Nat.lt_of_lt_of_le (Nat.lt_add_of_pos_right (List.length_pos_iff.mpr (hne h List.mem_cons_self))) (ihb b hb)
    exact ⟨List.pairwise_cons.mpr ⟨hlt, ihp⟩,
      List.forall_mem_cons.mpr ⟨h1, fun b hb => Nat.le_trans h1 (Nat.le_of_lt (hlt b hb))⟩⟩

def shift (k : Nat) (es : List Edit) : List Edit :=
  es.map (fun e => { e with start := k + e.start, stop := k + e.stop })

/-- cheaper to check than what `omega` produces for it -/
theorem add_sub_sub_sub (a b c : Nat) : a + b - c - (a - c) = b - (c - a) := by
  rcases Nat.le_total c a with h | h
  · obtain ⟨k, rfl⟩ := Nat.le.dest h
    rw [Nat.add_sub_cancel_left, Nat.add_assoc, Nat.add_sub_cancel_left, Nat.add_sub_cancel_left,
      Nat.sub_eq_zero_of_le (Nat.le_add_right c k), Nat.sub_zero]
  · obtain ⟨k, rfl⟩ := Nat.le.dest h
    rw [Nat.add_sub_add_left, Nat.add_sub_cancel_left, Nat.sub_eq_zero_of_le (Nat.le_add_right a k), Nat.sub_zero]

theorem spec_shift (A R : Bytes) (off : Nat) (es : List Edit) :
    spec (A ++ R) off (shift A.length es) = A.drop off ++ spec R (off - A.length) es := by
  cases es with
  | nil => exact List.drop_append
  | cons e es =>
    have ih := spec_shift A R (A.length + e.stop) es
    rw [List.drop_eq_nil_of_le (Nat.le_add_right _ _), Nat.add_sub_cancel_left, List.nil_append] at ih
    simp only [shift, List.map_cons, spec] at ih ⊢
    rw [ih, List.drop_append, List.take_append, List.length_drop, add_sub_sub_sub,
      List.take_of_length_le (by rw [List.length_drop]; exact Nat.sub_le_sub_right (Nat.le_add_right _ _) _)]
    simp only [List.append_assoc]

theorem spec_append (A R : Bytes) (off : Nat) (EA ER : List Edit) (h : Consistent A off EA) :
    spec (A ++ R) off (EA ++ shift A.length ER) = spec A off EA ++ spec R 0 ER := by
  induction EA generalizing off with
  | nil => rw [List.nil_append, spec_shift, Nat.sub_eq_zero_of_le (consistent_le h)]; rfl
  | cons e es ih =>
    obtain ⟨h1, h2, h3, _, _, _, _, hrest⟩ := h
    simp only [List.cons_append, spec, ih e.stop hrest, List.append_assoc]
    congr 1
    have hle : off ≤ A.length := by omega
    rw [List.drop_append_of_le_length hle, List.take_append_of_le_length (by simp; omega)]

end Hunks
