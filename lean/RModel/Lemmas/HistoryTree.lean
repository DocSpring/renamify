import RModel.Model.History
import RModel.Model.HistorySpec
import RModel.Model.HistoryTree
/- the flat-file tree side has the undo round-trip law that `C10.refines_spec_partial` assumes -/

namespace HistoryTree
open History HistorySpec

theorem get_cons (e : Bytes × Bytes) (es : Tree) (f : Bytes) :
    get (e :: es) f = if e.1 == f then some e.2 else get es f := rfl

theorem set_cons (e : Bytes × Bytes) (es : Tree) (f c : Bytes) :
    set (e :: es) f c = if e.1 == f then (e.1, c) :: es else e :: set es f c := rfl

theorem get_set_same (t : Tree) (f c0 c : Bytes) (h : get t f = some c0) : get (set t f c) f = some c := by
  induction t with
  | nil => cases h
  | cons e es ih =>
    cases hb : e.1 == f with
    | true => simp only [set_cons, get_cons, hb, ↓reduceIte]
    | false =>
      simp only [get_cons, hb, Bool.false_eq_true, ↓reduceIte] at h
      simp only [set_cons, get_cons, hb, Bool.false_eq_true, ↓reduceIte]
      exact ih h

theorem set_same (t : Tree) (f c : Bytes) (h : get t f = some c) : set t f c = t := by
  induction t with
  | nil => rfl
  | cons e es ih =>
    cases hb : e.1 == f with
    | true =>
      simp only [get_cons, hb, ↓reduceIte, Option.some.injEq] at h
      simp only [set_cons, hb, ↓reduceIte, ← h]
    | false =>
      simp only [get_cons, hb, Bool.false_eq_true, ↓reduceIte] at h
      simp only [set_cons, hb, Bool.false_eq_true, ↓reduceIte, ih h]

theorem set_set (t : Tree) (f c c' : Bytes) : set (set t f c) f c' = set t f c' := by
  induction t with
  | nil => rfl
  | cons e es ih =>
    cases hb : e.1 == f with
    | true => simp only [set_cons, hb, ↓reduceIte]
    | false => simp only [set_cons, hb, Bool.false_eq_true, ↓reduceIte, ih]

theorem applyFiles_cons (p : Plan) (t : Tree) (b : Backup) (wrote : Bool) (f : Bytes) (fs : List Bytes) :
    applyFiles p t b wrote (f :: fs) =
      match get t f with
      | none => if wrote then .partly t else .rejected
      | some c =>
        match Edits.applyEdits c (editsFor p f) with
        | .error _ => if wrote then .partly t else .rejected
        | .ok c' => applyFiles p (set t f c') (if c' == c then b else b ++ [(f, c', c)]) true fs := rfl

theorem revertFiles_cons (t : Tree) (ok : Bool) (f after before : Bytes) (rest : Backup) :
    revertFiles t ok ((f, after, before) :: rest) =
      if get t f == some after then revertFiles (set t f before) ok rest
      else revertFiles (insert (rejName f) rejBody t) false rest := rfl

-- given outright: the search finds it only after a long walk through the order classes
local instance : LawfulBEq Bytes := @List.instLawfulBEq UInt8 _ instLawfulBEq

/-- `apply` appends to the backups one reverse patch per changed file, and reverting them latest first leads back to the
    tree it started from, whatever is reverted afterwards -/
theorem applyFiles_roundtrip (p : Plan) (fs : List Bytes) :
    ∀ (t : Tree) (b0 : Backup) (wrote : Bool) (t' : Tree) (b : Backup),
      applyFiles p t b0 wrote fs = .ok t' b →
      ∃ bnew, b = b0 ++ bnew ∧ (∀ rest, revertFiles t' true (bnew.reverse ++ rest) = revertFiles t true rest) ∧
        ∀ e ∈ bnew, e.1 ∈ fs := by
  induction fs with
  | nil =>
    intro t b0 wrote t' b h
    cases h
    exact ⟨[], (List.append_nil _).symm, fun _ => rfl, nofun⟩
  | cons f fs ih =>
    intro t b0 wrote t' b h
    rw [applyFiles_cons] at h
    cases hg : get t f with
    | none => rw [hg] at h; cases wrote <;> cases h
    | some c =>
      rw [hg] at h
      dsimp only at h
      cases ha : Edits.applyEdits c (editsFor p f) with
      | error x => rw [ha] at h; cases wrote <;> cases h
      | ok c' =>
        rw [ha] at h
        dsimp only at h
        obtain ⟨bnew, hb, hrev, hmem⟩ := ih _ _ _ _ _ h
        cases hc : c' == c with
        | true =>
          -- the file is unchanged: no patch was written for it
          rw [hc, if_pos rfl] at hb
          rw [eq_of_beq hc, set_same t f c hg] at hrev
          exact ⟨bnew, hb, hrev, fun e he => List.mem_cons_of_mem _ (hmem e he)⟩
        | false =>
          rw [hc, if_neg Bool.false_ne_true] at hb
          refine ⟨(f, c', c) :: bnew, by rw [hb, List.append_assoc]; rfl, fun rest => ?_,
            List.forall_mem_cons.2 ⟨List.mem_cons_self, fun e he => List.mem_cons_of_mem _ (hmem e he)⟩⟩
          rw [List.reverse_cons, List.append_assoc, hrev, List.singleton_append, revertFiles_cons, get_set_same t f c c' hg,
            if_pos (show (some c' == some c') = true from beq_iff_eq.2 rfl), set_set, set_same t f c hg]

theorem roundTrip : RoundTrip ops := by
  intro t p t' b h
  obtain ⟨bnew, hb, hrev, hmem⟩ := applyFiles_roundtrip p (planFiles p) t [] false t' b h
  cases hb.trans (List.nil_append _)
  show revertFiles t' true (b.filter (fun e => (planFiles p).contains e.1)).reverse = .ok t
  rw [List.filter_eq_self.2 fun e he => by simpa using hmem e he, ← List.append_nil (List.reverse _), hrev]
  rfl

end HistoryTree
