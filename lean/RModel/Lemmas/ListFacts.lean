/- Facts about `List` functions that several lemma files use and the core library does not state. -/
namespace List

theorem all_congr_mem {α} {l : List α} {p q : α → Bool} (h : ∀ a ∈ l, p a = q a) : l.all p = l.all q := by
  rw [Bool.eq_iff_iff, all_eq_true, all_eq_true]
  exact forall₂_congr fun a ha => by rw [h a ha]

theorem find?_pairwise {α} {r : α → α → Prop} {p : α → Bool} {l : List α} {a b : α} (hl : l.Pairwise r)
    (h : l.find? p = some a) (hb : b ∈ l) (hp : p b = true) : b = a ∨ r a b := by
  obtain ⟨_, as, bs, rfl, hn⟩ := find?_eq_some_iff_append.mp h
  rcases mem_append.mp hb with hb | hb
  · have := hn b hb; simp [hp] at this
  · rcases mem_cons.mp hb with rfl | hb
    · exact Or.inl rfl
    · exact Or.inr ((pairwise_cons.mp (pairwise_append.mp hl).2.1).1 b hb)

theorem mem_takeWhile_imp {α} {p : α → Bool} {l : List α} {a : α} (h : a ∈ l.takeWhile p) : p a = true :=
  all_eq_true.mp all_takeWhile a h

theorem takeWhile_eq_self {α} {p : α → Bool} {l : List α} (h : ∀ a ∈ l, p a = true) : l.takeWhile p = l := by
  simpa using takeWhile_append_of_pos (l₂ := []) h

theorem takeWhile_eq_nil_of_head {α} {p : α → Bool} {l : List α} (h : ∀ a, l.head? = some a → p a = false) :
    l.takeWhile p = [] := by
  cases l with
  | nil => rfl
  | cons x l => rw [takeWhile_cons, h x rfl]; rfl

theorem dropWhile_eq_nil {α} {p : α → Bool} {l : List α} (h : l.dropWhile p = []) (a : α) (ha : a ∈ l) : p a = true := by
  have := takeWhile_append_dropWhile (p := p) (l := l)
  rw [h, append_nil] at this
  exact mem_takeWhile_imp (this ▸ ha)

theorem mem_insertion {α} {k a : α} {f : List α → List α} (h0 : f [] = [k])
    (hc : ∀ x xs, f (x :: xs) = k :: x :: xs ∨ f (x :: xs) = x :: f xs) : ∀ {l : List α}, a ∈ f l ↔ a = k ∨ a ∈ l
  | [] => by rw [h0, mem_singleton, or_iff_left not_mem_nil]
  | x :: xs => by
    rcases hc x xs with h | h
    · rw [h, mem_cons]
    · rw [h, mem_cons, mem_insertion h0 hc, mem_cons, or_left_comm]

theorem lookup_filter_key {α β} [BEq α] [LawfulBEq α] {p : α → Bool} {k : α} (hk : p k = true) :
    ∀ (m : List (α × β)), (m.filter (fun e => p e.1)).lookup k = m.lookup k
  | [] => rfl
  | (k', v) :: m => by
    rw [filter_cons, lookup_cons]
    cases h : k == k'
    · split
      · rw [lookup_cons, h]; exact lookup_filter_key hk m
      · exact lookup_filter_key hk m
    · rw [← beq_iff_eq.mp h, if_pos hk, lookup_cons_self]

theorem ne_nil_of_two {α} {l : List α} (h2 : 2 ≤ l.length) : l ≠ [] :=
  ne_nil_of_length_pos (Nat.lt_of_lt_of_le Nat.two_pos h2)

theorem map_id_of {α} {f : α → α} {l : List α} (h : ∀ a ∈ l, f a = a) : l.map f = l :=
  (map_congr_left h).trans (map_id' l)

theorem any_const {α} {q : α → Bool} {b : Bool} : ∀ {l : List α}, l ≠ [] → (∀ a ∈ l, q a = b) → l.any q = b
  | [a], _, h => by rw [any_cons, h a (mem_cons_self ..), any_nil, Bool.or_false]
  | a :: a' :: l, _, h => by
    rw [any_cons, h a (mem_cons_self ..), any_const (cons_ne_nil _ _) fun x hx => h x (mem_cons_of_mem _ hx),
      Bool.or_self]

theorem all_false_of_mem {α} {p : α → Bool} {l : List α} {x : α} (hx : x ∈ l) (hp : p x = false) : l.all p = false :=
  Bool.eq_false_iff.mpr fun h => Bool.noConfusion (hp.symm.trans (all_eq_true.mp h x hx))

theorem forall_mem_snoc {α} {p : α → Prop} {l : List α} {a : α} (h : ∀ x ∈ l, p x) (ha : p a) : ∀ x ∈ l ++ [a], p x :=
  forall_mem_append.2 ⟨h, forall_mem_singleton.2 ha⟩

theorem mem_ite {α} {c : Prop} [Decidable c] {a b : List α} {x : α} (h : x ∈ (if c then a else b)) : x ∈ a ∨ x ∈ b := by
  split at h
  · exact Or.inl h
  · exact Or.inr h

theorem not_prefix_cons {α} {k rest : List α} {c : α} (hne : k ≠ []) (h : k.head? ≠ some c) : ¬ k <+: c :: rest := by
  obtain ⟨a, k', rfl⟩ := exists_cons_of_ne_nil hne
  rintro ⟨t, ht⟩
  cases ht
  exact h rfl

theorem mem_map_fst_iff {α β} [BEq α] [LawfulBEq α] {k : α} {m : List (α × β)} :
    k ∈ m.map (·.1) ↔ (m.lookup k).isSome = true := by
  rw [lookup_isSome_iff, mem_map]
  exact ⟨fun ⟨e, he, h⟩ => ⟨e, he, h ▸ beq_self_eq_true _⟩, fun ⟨e, he, h⟩ => ⟨e, he, (beq_iff_eq.mp h).symm⟩⟩

theorem lookup_of_all {α β} [BEq α] [LawfulBEq α] {k : α} {v : β} : ∀ {rows : List (α × β)}, (∃ e ∈ rows, e.1 = k) →
    (∀ e ∈ rows, e.1 = k → e.2 = v) → rows.lookup k = some v
  | [], h, _ => by obtain ⟨e, he, _⟩ := h; exact absurd he not_mem_nil
  | (ek, ev) :: rows, hex, hall => by
    rw [lookup_cons]
    cases hk : k == ek with
    | true => exact congrArg some (hall (ek, ev) (mem_cons_self ..) (beq_iff_eq.mp hk).symm)
    | false =>
      refine lookup_of_all ?_ fun e he => hall e (mem_cons_of_mem _ he)
      obtain ⟨e, he, hek⟩ := hex
      rcases mem_cons.mp he with rfl | he
      · rw [← hek, beq_self_eq_true] at hk; cases hk
      · exact ⟨e, he, hek⟩

theorem lookup_first {α β} [BEq α] [LawfulBEq α] {k : α} (pre : List (α × β)) (e : α × β) (post : List (α × β))
    (hpre : ∀ x ∈ pre, x.1 ≠ k) (he : e.1 = k) : (pre ++ e :: post).lookup k = some e.2 := by
  induction pre with
  | nil => rw [nil_append, lookup_cons, ← he, beq_self_eq_true]
  | cons x pre ih =>
    have hx : (k == x.1) = false := beq_eq_false_iff_ne.mpr fun h => hpre x (mem_cons_self ..) h.symm
    rw [cons_append, lookup_cons, hx]
    exact ih fun y hy => hpre y (mem_cons_of_mem _ hy)

end List
