import RModel.Model.Serde
/-
  Lemmas for C17 (`Props/C17.lean`): `de t (ser t v) = ok v` holds exactly when `guard t v` does (`roundtrip_iff`,
  by mutual induction over schema and field list), and the decidable schema checks imply `guard`.
-/
namespace Serde

theorem skipped_value {k : Skip} {v : RVal} (h : skipped k v = true) : k.value = some v := by
  revert h
  fun_cases skipped k v <;> intro h
  case case5 => cases h
  all_goals rfl

theorem skipped_never (v : RVal) : skipped .never v = false := by
  cases v <;> rfl

theorem schemaOk_vec (t : Ty) : SchemaOk (.vec t) = SchemaOk t :=
  rfl

theorem okMap_eq_iff {α β ε} {f : α → β} (hf : ∀ a b, f a = f b → a = b) {x : Except ε α} {a : α} :
    okMap f x = .ok (f a) ↔ x = .ok a := by
  cases x with
  | error e => simp [okMap]
  | ok b =>
    simp only [okMap, Except.ok.injEq]
    exact ⟨hf b a, fun h => by rw [h]⟩

theorem okMap_cons_iff {α ε} {x : Except ε (List α)} {v v0 : α} {vs0 : List α} :
    okMap (v :: ·) x = .ok (v0 :: vs0) ↔ v = v0 ∧ x = .ok vs0 := by
  cases x <;> simp [okMap]

theorem mapE_ok_iff {α β ε} (f : α → Except ε β) (g : β → α) :
    ∀ (l : List β), mapE f (l.map g) = .ok l ↔ ∀ v ∈ l, f (g v) = .ok v
  | [] => by simp [mapE]
  | a :: as => by
    rw [List.map_cons, mapE, List.forall_mem_cons, ← mapE_ok_iff f g as]
    cases f (g a) <;> cases mapE f (as.map g) <;> simp

def keys (kvs : List (Bytes × J)) : List Bytes := kvs.map Prod.fst

theorem keys_append (a b : List (Bytes × J)) : keys (a ++ b) = keys a ++ keys b :=
  List.map_append

theorem lookup_append (n : Bytes) (pre rest : List (Bytes × J)) (h : n ∉ keys pre) :
    lookup n (pre ++ rest) = lookup n rest := by
  induction pre with
  | nil => rfl
  | cons p pre ih =>
    rw [keys, List.map_cons, List.mem_cons, not_or] at h
    rw [List.cons_append, lookup, if_neg (by simpa using Ne.symm h.1), ih h.2]

theorem lookup_none (n : Bytes) (kvs : List (Bytes × J)) (h : n ∉ keys kvs) : lookup n kvs = none := by
  simpa [lookup] using lookup_append n kvs [] h

theorem keys_serFields_subset : ∀ (fs : List Field) (vs : List RVal) (k : Bytes),
    k ∈ keys (serFields fs vs) → k ∈ fieldNames fs
  | [], _, k, h | .mk _ _ _ _ :: _, [], k, h => nomatch h
  | .mk n t s m :: fs, v :: vs, k, h => by
    rw [serFields] at h
    rw [fieldNames, List.mem_cons]
    split at h
    · exact .inr (keys_serFields_subset fs vs k h)
    · exact (List.mem_cons.mp h).imp_right (keys_serFields_subset fs vs k)

theorem unknownKey_none (names : List Bytes) :
    ∀ (kvs : List (Bytes × J)), (∀ k ∈ keys kvs, k ∈ names) → unknownKey names kvs = none
  | [], _ => rfl
  | (k, j) :: rest, h => by
    rw [unknownKey, if_pos (List.contains_iff_mem.mpr (h k List.mem_cons_self))]
    exact unknownKey_none names rest fun k' hk' => h k' (List.mem_cons_of_mem _ hk')

theorem nodupB_cons {x : Bytes} {xs : List Bytes} (h : nodupB (x :: xs) = true) : x ∉ xs ∧ nodupB xs = true := by
  rw [nodupB, Bool.and_eq_true, Bool.not_eq_true', List.contains_eq_mem, decide_eq_false_iff_not] at h
  exact h

theorem indexOf_getD (names : List Bytes) (i : Nat) (hn : nodupB names = true) (hi : i < names.length) :
    indexOf (names.getD i []) names = some i := by
  induction names generalizing i with
  | nil => cases hi
  | cons x xs ih =>
    cases i with
    | zero => exact if_pos BEq.rfl
    | succ i =>
      obtain ⟨hx, hxs⟩ := nodupB_cons hn
      have hi' : i < xs.length := Nat.lt_of_succ_lt_succ hi
      have hmem : xs.getD i [] ∈ xs := by
        rw [List.getD_eq_getElem?_getD, List.getElem?_eq_getElem hi']
        exact List.getElem_mem hi'
      rw [List.getD_cons_succ, indexOf, if_neg fun e => hx ((eq_of_beq e : x = xs.getD i []) ▸ hmem), ih i hxs hi']
      rfl
theorem ser_not_null (t : Ty) (v : RVal) (ht : t.isOpt = false) (hw : wellTyped t v = true) :
    (ser t v).isNull = false := by
  revert hw
  fun_cases wellTyped t v <;> intro hw
  all_goals first | rfl | exact Bool.noConfusion hw | exact Bool.noConfusion ht

mutual
theorem roundtrip_iff : ∀ (t : Ty) (v : RVal), wf t = true → wellTyped t v = true →
    (de t (ser t v) = .ok v ↔ guard t v = true)
  | .str, v, _, hw | .path, v, _, hw | .num, v, _, hw | .bool, v, _, hw => by
    cases v <;> first | exact Bool.noConfusion hw | exact iff_of_true rfl rfl
  | .opt _, .none, _, _ => iff_of_true rfl rfl
  | .enum _ names, .variant i, hwf, hw => by
    refine iff_of_true ?_ rfl
    simp only [ser, de, indexOf_getD names i hwf (of_decide_eq_true hw)]
  | .opt t, .some x, hwf, hw => by
    simp only [wf, Bool.and_eq_true, Bool.not_eq_true'] at hwf
    simp only [ser, de, guard, ser_not_null t x hwf.1 hw, Bool.false_eq_true, if_false, ← roundtrip_iff t x hwf.2 hw]
    exact okMap_eq_iff fun _ _ h => RVal.some.inj h
  | .vec t, .list vs, hwf, hw => by
    simp only [wellTyped, List.all_eq_true] at hw
    simp only [ser, de, guard, List.all_eq_true, okMap_eq_iff (f := RVal.list) fun _ _ h => RVal.list.inj h, mapE_ok_iff]
    exact forall₂_congr fun x hx => roundtrip_iff t x hwf (hw x hx)
  | .map t, .map ks vs, hwf, hw => by
    simp only [wellTyped, Bool.and_eq_true, beq_iff_eq, List.all_eq_true] at hw
    have hlen : ks.length = (vs.map (ser t)).length := by rw [List.length_map, hw.1]
    simp only [ser, de, guard, List.all_eq_true, List.map_snd_zip (Nat.le_of_eq hlen.symm),
      List.map_fst_zip (Nat.le_of_eq hlen), okMap_eq_iff (f := RVal.map ks) fun _ _ h => (RVal.map.inj h).2, mapE_ok_iff]
    exact forall₂_congr fun x hx => roundtrip_iff t x hwf (hw.2 x hx)
  | .pair a b, .list [x, y], hwf, hw => by
    simp only [wf, wellTyped, Bool.and_eq_true] at hwf hw
    simp only [ser, de, guard, Bool.and_eq_true, ← roundtrip_iff a x hwf.1 hw.1, ← roundtrip_iff b y hwf.2 hw.2]
    cases de a (ser a x) <;> cases de b (ser b y) <;> simp
  | .struct _ deny fs, .record vs, hwf, hw => by
    simp only [wf, Bool.and_eq_true] at hwf
    have hu : (if deny then unknownKey (fieldNames fs) (serFields fs vs) else none) = none := by
      split
      · exact unknownKey_none _ _ (keys_serFields_subset fs vs)
      · rfl
    simp only [ser, de, guard, hu, ← fields_iff fs vs [] hwf.1 hwf.2 hw nofun]
    exact okMap_eq_iff fun _ _ h => RVal.record.inj h
theorem fields_iff : ∀ (fs : List Field) (vs : List RVal) (pre : List (Bytes × J)),
    nodupB (fieldNames fs) = true → wfFields fs = true → wellTypedFields fs vs = true →
    (∀ k ∈ keys pre, k ∉ fieldNames fs) →
    (deFields fs (pre ++ serFields fs vs) = .ok vs ↔ guardFields fs vs = true)
  | [], [], _, _, _, _, _ => iff_of_true rfl rfl
  | .mk n t k m :: fs, v :: vs, pre, hnd, hwf, hw, hpre => by
    obtain ⟨hn, hnd'⟩ := nodupB_cons (x := n) hnd
    simp only [wfFields, wellTypedFields, Bool.and_eq_true] at hwf hw
    have hnpre : n ∉ keys pre := fun h => hpre n h List.mem_cons_self
    have hpre' : ∀ k ∈ keys pre, k ∉ fieldNames fs := fun k hk hk' => hpre k hk (List.mem_cons_of_mem _ hk')
    cases hs : skipped k v with
    | true =>
      -- the key is absent: the missing-key rule has to return `v`
      have ih := fields_iff fs vs pre hnd' hwf.2 hw.2 hpre'
      simp only [serFields, hs, if_true, deFields, guardFields, Bool.and_eq_true, decide_eq_true_eq, ← ih,
        lookup_append n pre _ hnpre, lookup_none n _ fun h => hn (keys_serFields_subset fs vs n h)]
      cases missingValue t m with
      | none => simp
      | some mv => rw [Option.some.injEq]; exact okMap_cons_iff
    | false =>
      -- the key is present: the rest is read from `pre ++ [(n, ser t v)] ++ …`
      have ih := fields_iff fs vs (pre ++ [(n, ser t v)]) hnd' hwf.2 hw.2 (by
        rw [keys_append]
        exact List.forall_mem_append.mpr ⟨hpre', List.forall_mem_singleton.mpr hn⟩)
      rw [List.append_assoc, List.singleton_append] at ih
      simp only [serFields, hs, Bool.false_eq_true, if_false, deFields, guardFields, Bool.and_eq_true, ← ih,
        ← roundtrip_iff t v hwf.1 hw.1, lookup_append n pre _ hnpre, lookup, beq_self_eq_true, if_true]
      cases de t (ser t v) with
      | error e => simp
      | ok v' => rw [Except.ok.injEq]; exact okMap_cons_iff
end

theorem fieldOk_skipped {t : Ty} {k : Skip} {m : Missing} {v : RVal}
    (hok : fieldOk t k m = true) (hs : skipped k v = true) (hw : wellTyped t v = true) :
    missingValue t m = some v := by
  simpa only [fieldOk, skipped_value hs, hw, Bool.not_true, Bool.false_or, decide_eq_true_eq] using hok

mutual
theorem guard_of_guardOn (bad : List (Bytes × Bytes)) : ∀ (t : Ty) (v : RVal),
    (∀ p ∈ offending t, bad.contains p = true) → wellTyped t v = true → guardOn bad t v = true →
    guard t v = true
  | .str, _, _, _, _ | .path, _, _, _, _ | .num, _, _, _, _ | .bool, _, _, _, _ | .enum _ _, _, _, _, _
  | .opt _, .none, _, _, _ => rfl
  | .opt t, .some x, ho, hw, hg => guard_of_guardOn bad t x ho hw hg
  | .vec t, .list vs, ho, hw, hg => List.all_eq_true.mpr fun x hx =>
    guard_of_guardOn bad t x ho (List.all_eq_true.mp hw x hx) (List.all_eq_true.mp hg x hx)
  | .map t, .map _ vs, ho, hw, hg => List.all_eq_true.mpr fun x hx =>
    guard_of_guardOn bad t x ho (List.all_eq_true.mp (Bool.and_eq_true_iff.mp hw).2 x hx) (List.all_eq_true.mp hg x hx)
  | .pair a b, .list [x, y], ho, hw, hg => by
    obtain ⟨hoa, hob⟩ := List.forall_mem_append.mp ho
    obtain ⟨hwa, hwb⟩ := Bool.and_eq_true_iff.mp hw
    obtain ⟨hga, hgb⟩ := Bool.and_eq_true_iff.mp hg
    exact Bool.and_eq_true_iff.mpr ⟨guard_of_guardOn bad a x hoa hwa hga, guard_of_guardOn bad b y hob hwb hgb⟩
  | .struct sn _ fs, .record vs, ho, hw, hg => guardFields_of_guardOn bad sn fs vs ho hw hg
theorem guardFields_of_guardOn (bad : List (Bytes × Bytes)) (sn : Bytes) : ∀ (fs : List Field) (vs : List RVal),
    (∀ p ∈ offendingFields sn fs, bad.contains p = true) → wellTypedFields fs vs = true →
    guardOnFields bad sn fs vs = true → guardFields fs vs = true
  | [], _, _, _, _ => rfl
  | .mk n t k m :: fs, v :: vs, ho, hw, hg => by
    obtain ⟨hon, ho⟩ := List.forall_mem_append.mp ho
    obtain ⟨hot, hofs⟩ := List.forall_mem_append.mp ho
    obtain ⟨hwt, hwfs⟩ := Bool.and_eq_true_iff.mp hw
    obtain ⟨hgt, hgfs⟩ := Bool.and_eq_true_iff.mp hg
    refine Bool.and_eq_true_iff.mpr ⟨?_, guardFields_of_guardOn bad sn fs vs hofs hwfs hgfs⟩
    cases hs : skipped k v
    · rw [hs] at hgt
      exact guard_of_guardOn bad t v hot hwt hgt
    · -- a skipped field is either fine by the schema check, or listed in `bad`, which `guardOn` excludes
      cases hok : fieldOk t k m
      · rw [hs, if_pos rfl, hon (sn, n) (by rw [hok]; exact List.mem_singleton_self _)] at hgt
        exact Bool.noConfusion hgt
      · exact decide_eq_true (fieldOk_skipped hok hs hwt)
end

mutual
theorem guardOn_nil : ∀ (t : Ty) (v : RVal), guardOn [] t v = true
  | .str, _ | .path, _ | .num, _ | .bool, _ | .enum _ _, _ => rfl
  | .opt t, v => by cases v <;> first | rfl | exact guardOn_nil t _
  | .vec t, v => by cases v <;> first | rfl | exact List.all_eq_true.mpr fun x _ => guardOn_nil t x
  | .map t, v => by cases v <;> first | rfl | exact List.all_eq_true.mpr fun x _ => guardOn_nil t x
  | .pair a b, v => by
    unfold guardOn
    split
    · exact Bool.and_eq_true_iff.mpr ⟨guardOn_nil a _, guardOn_nil b _⟩
    · rfl
  | .struct sn _ fs, v => by cases v <;> first | rfl | exact guardOnFields_nil sn fs _
theorem guardOnFields_nil (sn : Bytes) : ∀ (fs : List Field) (vs : List RVal), guardOnFields [] sn fs vs = true
  | [], _ => rfl
  | .mk _ _ _ _ :: _, [] => rfl
  | .mk n t k m :: fs, v :: vs => by
    rw [guardOnFields, guardOn_nil t v, guardOnFields_nil sn fs vs]
    cases skipped k v <;> rfl
end

/-- the guarded round-trip: schema fine except for the fields in `bad`, and none of those is skipped in `v` -/
theorem roundtrip_of_schemaOkExcept (bad : List (Bytes × Bytes)) (t : Ty) (v : RVal)
    (hs : SchemaOkExcept bad t = true) (hw : wellTyped t v = true) (hg : guardOn bad t v = true) :
    de t (ser t v) = .ok v := by
  obtain ⟨hwf, hoff⟩ := Bool.and_eq_true_iff.mp hs
  exact (roundtrip_iff t v hwf hw).mpr (guard_of_guardOn bad t v (List.all_eq_true.mp hoff) hw hg)

theorem schemaOkExcept_nil (t : Ty) : SchemaOkExcept [] t = SchemaOk t := by
  unfold SchemaOkExcept SchemaOk
  cases offending t <;> rfl

theorem roundtrip_of_schemaOk (t : Ty) (hs : SchemaOk t = true) (v : RVal) (hw : wellTyped t v = true) :
    de t (ser t v) = .ok v :=
  roundtrip_of_schemaOkExcept [] t v (by rw [schemaOkExcept_nil]; exact hs) hw (guardOn_nil t v)

end Serde
