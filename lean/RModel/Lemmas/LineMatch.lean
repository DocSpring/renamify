import RModel.Lemmas.LineProfile
/-
  C06, clause 1: the exact pass on a line `d₁ ++ x ++ d₂` whose delimiters hold no identifier byte — leftmost-first
  alternation over the keys ordered by escaped length, the boundary test, the immediate identifier context, `str::find`,
  the first-letter fix-up; every rendering of a term starts and ends with a letter.
-/
open B CaseModel

namespace LinePipeline

/-- delimiter byte: ANY byte that is not an ASCII letter or digit and not `-` or `_` — ASCII punctuation, white space and
    control bytes, and every byte of a non-ASCII character (typographic quotes, CJK brackets, a byte-order mark …) -/
def neutralByte (c : UInt8) : Bool := !isAlnum c && c != 45 && c != 95

def NeutralDelim (d : Bytes) : Prop := ∀ c ∈ d, neutralByte c = true

instance (d : Bytes) : Decidable (NeutralDelim d) := by unfold NeutralDelim; infer_instance

/-- the text after the occurrence starts at a character boundary (always so in a valid UTF-8 line whose occurrence is
    ASCII): its first byte is not a UTF-8 continuation byte -/
def CharStart (d : Bytes) : Prop := ∀ z, d.head? = some z → Edits.isCont z = false

instance (d : Bytes) : Decidable (CharStart d) := by
  unfold CharStart
  cases d with
  | nil => exact isTrue (fun z h => by cases h)
  | cons c d =>
    by_cases h : Edits.isCont c = false
    · exact isTrue (fun z hz => by simp only [List.head?_cons, Option.some.injEq] at hz; rw [← hz]; exact h)
    · exact isFalse (fun hh => h (hh c rfl))

theorem mem_insertByLen {k x : Bytes} {l : List Bytes} : x ∈ insertByLen k l ↔ x = k ∨ x ∈ l :=
  List.mem_insertion (f := insertByLen k) rfl fun y ys => by
    rw [insertByLen]
    split
    · exact .inl rfl
    · exact .inr rfl

theorem mem_sortKeys {x : Bytes} : ∀ {ks : List Bytes}, x ∈ sortKeys ks ↔ x ∈ ks
  | [] => by simp [sortKeys]
  | k :: ks => by
    rw [sortKeys, List.foldr_cons, mem_insertByLen, ← sortKeys, mem_sortKeys, List.mem_cons]

/-- the order of the alternatives in `build_pattern`: escaped length not increasing -/
def Desc (l : List Bytes) : Prop := l.Pairwise (fun a b => escLen b ≤ escLen a)

theorem desc_insertByLen {k : Bytes} : ∀ {l : List Bytes}, Desc l → Desc (insertByLen k l)
  | [], _ => by simp [insertByLen, Desc]
  | y :: ys, h => by
    simp only [insertByLen]
    have hy := List.pairwise_cons.mp h
    split
    · refine List.pairwise_cons.mpr ⟨fun b hb => ?_, h⟩
      rcases List.mem_cons.mp hb with rfl | hb
      · omega
      · have := hy.1 b hb; omega
    · refine List.pairwise_cons.mpr ⟨fun b hb => ?_, desc_insertByLen hy.2⟩
      rcases mem_insertByLen.mp hb with rfl | hb
      · omega
      · exact hy.1 b hb

theorem desc_sortKeys : ∀ (ks : List Bytes), Desc (sortKeys ks)
  | [] => List.Pairwise.nil
  | _ :: ks => desc_insertByLen (desc_sortKeys ks)

theorem firstAlt_pred {k rest : Bytes} : (!k.isEmpty && k.isPrefixOf rest) = true ↔ k ≠ [] ∧ k <+: rest := by
  simp only [Bool.and_eq_true, Bool.not_eq_true', List.isEmpty_eq_false_iff, List.isPrefixOf_iff_prefix]

theorem firstAlt_spec {ks : List Bytes} {rest k : Bytes} (h : firstAlt (sortKeys ks) rest = some k) :
    k ∈ ks ∧ k ≠ [] ∧ k <+: rest ∧ ∀ k' ∈ ks, k' ≠ [] → k' <+: rest → escLen k' ≤ escLen k := by
  have hs := List.find?_some h
  rw [firstAlt_pred] at hs
  refine ⟨mem_sortKeys.mp (List.mem_of_find?_eq_some h), hs.1, hs.2, fun k' hk' hne hp => ?_⟩
  rcases List.find?_pairwise (desc_sortKeys ks) h (mem_sortKeys.mpr hk') (firstAlt_pred.mpr ⟨hne, hp⟩) with rfl | hle
  · exact Nat.le_refl _
  · exact hle

theorem firstAlt_isSome {ks : List Bytes} {rest x : Bytes} (hx : x ∈ ks) (hne : x ≠ []) (hp : x <+: rest) :
    (firstAlt (sortKeys ks) rest).isSome = true :=
  List.find?_isSome.mpr ⟨x, mem_sortKeys.mpr hx, firstAlt_pred.mpr ⟨hne, hp⟩⟩

theorem firstAlt_none_of_head {alts : List Bytes} {c : UInt8} {rest : Bytes}
    (h : ∀ k ∈ alts, k.head? ≠ some c) : firstAlt alts (c :: rest) = none :=
  List.find?_eq_none.mpr fun k hk hp => List.not_prefix_cons (firstAlt_pred.mp hp).1 (h k hk) (firstAlt_pred.mp hp).2

theorem escLen_append (a b : Bytes) : escLen (a ++ b) = escLen a + escLen b := by
  simp only [escLen, List.length_append, List.filter_append]; omega

theorem escLen_pos {b : Bytes} (h : b ≠ []) : 0 < escLen b := by
  obtain ⟨c, cs, rfl⟩ := List.exists_cons_of_ne_nil h
  simp only [escLen, List.length_cons]; omega

def NoStart (alts : List Bytes) (d : Bytes) : Prop := ∀ c ∈ d, ∀ k ∈ alts, k.head? ≠ some c

theorem findIter_noStart {alts : List Bytes} : ∀ (d rest : Bytes) (pos : Nat), NoStart alts d →
    findIter alts pos 0 (d ++ rest) = findIter alts (pos + d.length) 0 rest
  | [], _, _, _ => by simp
  | c :: d, rest, pos, h => by
    rw [List.cons_append, findIter, firstAlt_none_of_head (h c (List.mem_cons_self ..))]
    simp only []
    rw [findIter_noStart d rest (pos + 1) (fun c' hc' => h c' (List.mem_cons_of_mem _ hc'))]
    simp only [List.length_cons]; congr 1; omega

theorem findIter_skip {alts : List Bytes} : ∀ (s t : Bytes) (pos : Nat),
    findIter alts pos s.length (s ++ t) = findIter alts (pos + s.length) 0 t
  | [], _, _ => by simp
  | c :: s, t, pos => by
    rw [List.cons_append, List.length_cons, findIter, findIter_skip s t (pos + 1)]
    congr 1; omega

theorem findIter_nil_of_none {alts : List Bytes} : ∀ (s : Bytes) (pos : Nat),
    (∀ i, i < s.length → firstAlt alts (s.drop i) = none) → findIter alts pos 0 s = []
  | [], _, _ => rfl
  | c :: s, pos, h => by
    rw [findIter, show firstAlt alts (c :: s) = none from h 0 (by simp)]
    exact findIter_nil_of_none s (pos + 1) fun i hi => h (i + 1) (by simp only [List.length_cons]; omega)

theorem findIter_occurrence {ks : List Bytes} {d₁ x d₂ : Bytes}
    (hx : x ∈ ks) (hne : x ≠ []) (h1 : NoStart (sortKeys ks) d₁) (h2 : NoStart (sortKeys ks) d₂)
    (hext : ∀ k ∈ ks, k <+: x ++ d₂ → x.length < k.length → False) :
    findIter (sortKeys ks) 0 0 (d₁ ++ x ++ d₂) = [(d₁.length, x)] := by
  rw [List.append_assoc, findIter_noStart d₁ _ 0 h1]
  obtain ⟨c, x', rfl⟩ := List.exists_cons_of_ne_nil hne
  obtain ⟨k, hk⟩ := Option.isSome_iff_exists.mp (firstAlt_isSome (rest := c :: x' ++ d₂) hx hne (List.prefix_append _ _))
  obtain ⟨hkm, hkne, hkp, hmax⟩ := firstAlt_spec hk
  have hle := hmax _ hx hne (List.prefix_append _ _)
  -- k and x are both prefixes of the rest: one is a prefix of the other
  have hkx : k = c :: x' := by
    rcases Nat.lt_or_ge (c :: x').length k.length with hlt | hge
    · exact (hext k hkm hkp hlt).elim
    · obtain ⟨t, ht⟩ := List.prefix_of_prefix_length_le hkp (List.prefix_append _ _) hge
      cases t with
      | nil => simpa using ht
      | cons a t =>
        rw [← ht, escLen_append] at hle
        have := escLen_pos (b := a :: t) (by simp)
        omega
  subst hkx
  rw [List.cons_append, findIter, ← List.cons_append, hk]
  simp only [Nat.zero_add, List.length_cons, Nat.add_sub_cancel]
  rw [findIter_skip x' d₂, ← List.append_nil d₂, findIter_noStart d₂ [] _ h2]
  rfl

theorem neutral_facts {c : UInt8} (h : neutralByte c = true) :
    spaceSide c = true ∧ isAlnum c = false ∧ isIdentChar c = false := by
  simp only [neutralByte, Bool.and_eq_true, Bool.not_eq_true', bne_iff_ne, ne_eq] at h
  obtain ⟨⟨h2, h3⟩, h4⟩ := h
  simp [spaceSide, isIdentChar, h2, h3, h4]

theorem alpha_not_neutral {c : UInt8} (ha : isAlpha c = true) : neutralByte c = false := by
  simp only [neutralByte, isAlnum, ha, Bool.true_or, Bool.not_true, Bool.false_and]

theorem isBoundary_of_sides {bytes : Bytes} {start stop : Nat}
    (hl : start ≠ 0 → ∀ p, bytes[start - 1]? = some p → neutralByte p = true)
    (hr : ∀ n, bytes[stop]? = some n → neutralByte n = true) : isBoundary bytes start stop = true := by
  unfold isBoundary
  simp only [Bool.and_eq_true]
  constructor
  · split
    · rfl
    · rename_i h0
      split
      · rename_i p hp
        obtain ⟨h1, h2, _⟩ := neutral_facts (hl h0 p hp)
        split <;> simp [h1, h2]
      · rfl
  · split
    · rfl
    · rename_i n hn
      obtain ⟨h1, h2, _⟩ := neutral_facts (hr n hn)
      split <;> simp [h1, h2]

theorem take_before (d₁ x d₂ : Bytes) : (d₁ ++ x ++ d₂).take d₁.length = d₁ := by
  rw [List.append_assoc, List.take_left']; rfl

theorem drop_before (d₁ x d₂ : Bytes) : (d₁ ++ x ++ d₂).drop d₁.length = x ++ d₂ := by
  rw [List.append_assoc, List.drop_left']; rfl

theorem take_through (d₁ x d₂ : Bytes) : (d₁ ++ x ++ d₂).take (d₁.length + x.length) = d₁ ++ x := by
  rw [← List.length_append, List.take_left']; rfl

theorem drop_through (d₁ x d₂ : Bytes) : (d₁ ++ x ++ d₂).drop (d₁.length + x.length) = d₂ := by
  rw [← List.length_append, List.drop_left']; rfl

theorem isBoundary_neutral {d₁ x d₂ : Bytes} (h1 : NeutralDelim d₁) (h2 : NeutralDelim d₂) :
    isBoundary (d₁ ++ x ++ d₂) d₁.length (d₁.length + x.length) = true := by
  apply isBoundary_of_sides
  · intro h0 p hp
    rw [List.append_assoc, List.getElem?_append_left (by omega)] at hp
    exact h1 p (List.mem_of_getElem? hp)
  · intro n hn
    rw [← List.head?_drop, drop_through] at hn
    exact h2 n (List.mem_of_mem_head? hn)

theorem immediateContext_neutral {d₁ x d₂ : Bytes} (h1 : NeutralDelim d₁) (h2 : NeutralDelim d₂) :
    immediateContext (d₁ ++ x ++ d₂) d₁.length (d₁.length + x.length) = x := by
  unfold immediateContext
  simp only [take_before, take_through, drop_through, List.drop_left']
  rw [List.takeWhile_eq_nil_of_head fun c hc => (neutral_facts (h1 c (List.mem_reverse.mp (List.mem_of_mem_head? hc)))).2.2,
    List.takeWhile_eq_nil_of_head fun c hc => (neutral_facts (h2 c (List.mem_of_mem_head? hc))).2.2]
  simp

theorem find_go_skip {x : Bytes} (hne : x ≠ []) : ∀ (d rest : Bytes) (i : Nat), (∀ c ∈ d, x.head? ≠ some c) →
    find.go x (d ++ rest) i = find.go x rest (i + d.length)
  | [], _, _, _ => rfl
  | c :: d, rest, i, h => by
    have hp : x.isPrefixOf (c :: (d ++ rest)) = false := Bool.eq_false_iff.mpr fun hp =>
      List.not_prefix_cons hne (h c (List.mem_cons_self ..)) (List.isPrefixOf_iff_prefix.mp hp)
    rw [List.cons_append, find.go, hp, if_neg Bool.false_ne_true,
      find_go_skip hne d rest (i + 1) fun c' hc' => h c' (List.mem_cons_of_mem _ hc'), Nat.add_right_comm]
    rfl

theorem findSub_occurrence {d₁ x d₂ : Bytes} (hne : x ≠ []) (h : ∀ c ∈ d₁, x.head? ≠ some c) :
    findSub (d₁ ++ x ++ d₂) x = some d₁.length := by
  unfold findSub find
  rw [List.append_assoc, find_go_skip hne d₁ _ 0 h]
  obtain ⟨a, x', rfl⟩ := List.exists_cons_of_ne_nil hne
  rw [List.cons_append, find.go, ← List.cons_append, List.isPrefixOf_iff_prefix.mpr (List.prefix_append _ _)]
  simp

/-- the coercion context is looked up at the occurrence, whichever of the two lookups the source uses -/
theorem contextPos_occurrence {d₁ x d₂ : Bytes} (hne : x ≠ []) (h : ∀ c ∈ d₁, x.head? ≠ some c) :
    contextPos (d₁ ++ x ++ d₂) d₁.length x = some d₁.length := by
  unfold contextPos
  have hp : x.isPrefixOf ((d₁ ++ x ++ d₂).drop d₁.length) = true := by
    rw [drop_before, List.isPrefixOf_iff_prefix]
    exact List.prefix_append x d₂
  rw [hp, Bool.and_true]
  split
  · rfl
  · exact findSub_occurrence hne h

theorem fixFirst_same_style {A : Acr} {c d : UInt8} {w v : Bytes} {ws vs : List Bytes} (st : Style)
    (hc : isAlpha c = true) (hd : isAlpha d = true) :
    fixFirst (toStyle A ((c :: w) :: ws) st) (toStyle A ((d :: v) :: vs) st) = toStyle A ((d :: v) :: vs) st := by
  obtain ⟨e, r, he, hu⟩ := toStyle_first (A := A) w ws st hc
  obtain ⟨e', r', he', hu'⟩ := toStyle_first (A := A) v vs st hd
  rw [he, he']
  unfold fixFirst
  simp only [List.head?_cons]
  cases hs : st.casing.1.firstUp with
  | true => rw [hs] at hu'; simp [upper_not_lower hu']
  | false => rw [hs] at hu; simp [hu]

theorem _root_.CaseModel.Words.head_alpha {ws : List Bytes} (hw : Words ws) (hne : ws ≠ []) :
    ∃ c w ws', ws = (c :: w) :: ws' ∧ isAlpha c = true := by
  obtain ⟨w, ws', rfl⟩ := List.exists_cons_of_ne_nil hne
  have hl := (hw w (List.mem_cons_self ..)).lowerWord
  obtain ⟨c, w', rfl⟩ := List.exists_cons_of_ne_nil hl.1
  exact ⟨c, w', ws', rfl, lower_alpha (hl.2 c (List.mem_cons_self ..))⟩

theorem fixFirst_render {A : Acr} {ws vs : List Bytes} (hw : Words ws) (hne : ws ≠ []) (hv : Words vs) (hvne : vs ≠ [])
    (st : Style) : fixFirst (toStyle A ws st) (toStyle A vs st) = toStyle A vs st := by
  obtain ⟨c, w, ws', rfl, hc⟩ := hw.head_alpha hne
  obtain ⟨d, v, vs', rfl, hd⟩ := hv.head_alpha hvne
  exact fixFirst_same_style st hc hd

theorem render_ends (A : Acr) {ws : List Bytes} (hne : ws ≠ []) (hw : Words ws) (st : Style) :
    Ends (toStyle A ws st) := by
  obtain ⟨w, ws', rfl⟩ := List.exists_cons_of_ne_nil hne
  have hall : ∀ r ∈ cased A st.casing (w :: ws'), Ends r := by
    have word : ∀ (k : Casing) (v : Bytes), v ∈ w :: ws' → Ends (k.fn A v) := fun k v hv => by
      obtain ⟨c, t, he, ha, -⟩ := fn_spec A k (hw v hv)
      rw [he]; exact ends_of_alpha (List.cons_ne_nil c t) ha
    intro r hr
    rcases List.mem_cons.mp hr with rfl | hr
    · exact word _ w (List.mem_cons_self ..)
    · obtain ⟨v, hv, rfl⟩ := List.mem_map.mp hr
      exact word _ v (List.mem_cons_of_mem _ hv)
  rw [toStyle_eq]
  cases st.sep with
  | some d => exact ends_join _ (List.cons_ne_nil _ _) hall
  | none => exact ends_concat (List.cons_ne_nil _ _) hall

theorem head_not_neutral {x d : Bytes} (hx : Ends x) (hd : NeutralDelim d) : ∀ c ∈ d, x.head? ≠ some c := by
  obtain ⟨⟨a, r, rfl, ha⟩, _⟩ := hx
  intro c hc hh
  cases hh
  exact absurd (hd _ hc) (by rw [alpha_not_neutral ha]; decide)

theorem noStart_neutral {ks : List Bytes} {d : Bytes} (hk : ∀ k ∈ ks, Ends k) (hd : NeutralDelim d) :
    NoStart (sortKeys ks) d :=
  fun c hc k hkm => head_not_neutral (hk k (mem_sortKeys.mp hkm)) hd c hc

/-- a key cannot reach beyond the occurrence into the delimiter: it would end with a delimiter byte -/
theorem no_extension {x d₂ k : Bytes} (hk : Ends k) (hd : NeutralDelim d₂) (hp : k <+: x ++ d₂)
    (hlt : x.length < k.length) : False := by
  obtain ⟨_, z, hz, hza⟩ := hk
  obtain ⟨p, rfl⟩ := List.prefix_of_prefix_length_le (List.prefix_append x d₂) hp (Nat.le_of_lt hlt)
  have hpd : p <+: d₂ := (List.prefix_append_right_inj x).mp hp
  have hpne : p ≠ [] := by rintro rfl; simp at hlt
  rw [List.getLast?_append, List.getLast?_eq_some_getLast hpne, Option.some_or, Option.some.injEq] at hz
  have hzm : z ∈ d₂ := hpd.subset (hz ▸ List.getLast_mem hpne)
  exact absurd (hd z hzm) (by rw [alpha_not_neutral hza]; decide)

/-- the exact pass (leftmost-first alternation over the keys ordered as `build_pattern` orders them, then the boundary
    test) finds exactly the occurrence, when every key starts and ends with a letter -/
theorem exactMatches_occurrence {ks : List Bytes} {d₁ x d₂ : Bytes} (hx : x ∈ ks) (hk : ∀ k ∈ ks, Ends k)
    (h1 : NeutralDelim d₁) (h2 : NeutralDelim d₂) :
    exactMatches (d₁ ++ x ++ d₂) ks = [(d₁.length, x)] := by
  unfold exactMatches
  rw [findIter_occurrence hx (hk x hx).ne_nil (noStart_neutral hk h1) (noStart_neutral hk h2)
    (fun k hkm hp hlt => no_extension (hk k hkm) h2 hp hlt)]
  simp only [List.filter_cons, isBoundary_neutral h1 h2, if_true, List.filter_nil]

end LinePipeline
