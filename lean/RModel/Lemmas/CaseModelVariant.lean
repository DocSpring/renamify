import RModel.Model.VariantMap
import RModel.Lemmas.CaseModelStyles
/-
  The variant table — association-list facts (`or_insert`, `insert`), re-rendering the tokens of
  a name typed in one style in another style, and distinctness of the renderings of one word list.
-/
open B

namespace CaseModel

theorem lookup_insertIfAbsent (m : List (Bytes × Bytes)) (k v k' : Bytes) :
    (insertIfAbsent m k v).lookup k' = (m.lookup k').or (if k' == k then some v else none) := by
  unfold insertIfAbsent
  cases hk : m.lookup k with
  | none =>
    simp only [Option.isSome_none, Bool.false_eq_true, ↓reduceIte, List.lookup_append, List.lookup_cons,
      List.lookup_nil]
    cases k' == k <;> rfl
  | some x =>
    simp only [Option.isSome_some, ↓reduceIte]
    cases hkk : k' == k with
    | false => simp only [Bool.false_eq_true, ↓reduceIte, Option.or_none]
    | true =>
      rw [beq_iff_eq] at hkk
      rw [hkk, hk]; rfl

theorem lookup_foldl_insert (k' : Bytes) : ∀ (rows m : List (Bytes × Bytes)),
    (rows.foldl (fun m e => insertIfAbsent m e.1 e.2) m).lookup k' = (m.lookup k').or (rows.lookup k')
  | [], m => by simp only [List.foldl_nil, List.lookup_nil, Option.or_none]
  | e :: rows, m => by
    obtain ⟨ek, ev⟩ := e
    rw [List.foldl_cons, lookup_foldl_insert k' rows, lookup_insertIfAbsent, Option.or_assoc, List.lookup_cons]
    cases k' == ek <;> simp only [Bool.false_eq_true, ↓reduceIte, Option.none_or, Option.some_or]

theorem lookup_buildMap (rows : List (Bytes × Bytes)) (k : Bytes) : (buildMap rows).lookup k = rows.lookup k := by
  rw [buildMap, lookup_foldl_insert]; rfl

theorem lookup_insertOverride (m : List (Bytes × Bytes)) (k v k' : Bytes) :
    (insertOverride m k v).lookup k' = if k' == k then some v else m.lookup k' := by
  rw [insertOverride, List.lookup_cons]
  cases h : k' == k with
  | true => rfl
  | false =>
    rw [if_neg Bool.false_ne_true]
    exact List.lookup_filter_key (p := fun x => !(x == k)) (by rw [h]; rfl) m

theorem mem_variantRows {A : Acr} {styles : List Style} {models : List (List Bytes × List Bytes)}
    {e : Bytes × Bytes} : e ∈ variantRows A styles models ↔
      ∃ st ∈ styles, ∃ m ∈ models, e = (toStyle A m.1 st, toStyle A m.2 st) := by
  simp only [variantRows, List.mem_flatMap, List.mem_map]
  constructor
  · rintro ⟨st, hst, m, hm, rfl⟩; exact ⟨st, hst, m, hm, rfl⟩
  · rintro ⟨st, hst, m, hm, rfl⟩; exact ⟨st, hst, m, hm, rfl⟩

variable {A : Acr}

/-- the words survive an upper-case rendering -/
def UpperSafe (A : Acr) (ws : List Bytes) : Prop := ∀ w ∈ ws, 3 ≤ w.length ∧ A.isAcr (upper w) = false
instance (A : Acr) (ws : List Bytes) : Decidable (UpperSafe A ws) := by unfold UpperSafe; infer_instance

def upperStyles : List Style := [.screamingSnake, .screamingTrain, .upperSentence]

theorem upper_casing {sst : Style} (hsst : sst ∈ V12) (h : sst.casing.1 = .upper ∨ sst.casing.2 = .upper) :
    sst ∈ upperStyles := by
  cases sst <;> first
    | decide
    | exact absurd hsst (by decide)
    | (rcases h with h | h <;> cases h)

theorem toStyle_parse_toStyle (hA : AcrOk A) (hS : AcrStable A) {ws : List Bytes} (hw : Words ws)
    (hN : Neutral A ws) {sst : Style} (hsst : sst ∈ V12) (hU : sst ∈ upperStyles → UpperSafe A ws) (st : Style) :
    toStyle A (parse A (toStyle A ws sst)) st = toStyle A ws st := by
  rw [parse_rendWords hA hS hw hN hsst]
  exact toStyle_rendWords_of hw.lowerWords hsst fun w h =>
    ⟨rend_fn _ (hw w h) (fun hu => hU (upper_casing hsst (Or.inl hu)) w h) _,
      rend_fn _ (hw w h) (fun hu => hU (upper_casing hsst (Or.inr hu)) w h) _⟩

theorem toStyle_inj (A : Acr) {ws : List Bytes} (h2 : 2 ≤ ws.length) (hw : Words ws) {st st' : Style}
    (hst : st ∈ V12) (h : toStyle A ws st' = toStyle A ws st) : st' = st := by
  have hd := detect_toStyle A h2 hw hst
  rw [← h] at hd
  by_cases hst' : st' ∈ V12
  · rw [detect_toStyle A h2 hw hst'] at hd
    exact Option.some.inj hd
  · rw [detect_flat A hw.lowerWords hst'] at hd
    cases hd

/-- the search term rendered in an enabled boundary-visible style is mapped to the replacement in that style -/
theorem variant_lookup (hA : AcrOk A) (hS : AcrStable A) {ws_s ws_r : List Bytes} {sst rst st : Style}
    {styles : Option (List Style)} {plurals : Bool} {sing plur : Bytes → Option Bytes} {isAmb : Bool}
    (h2 : 2 ≤ ws_s.length) (hws : Words ws_s) (hwr : Words ws_r) (hNs : Neutral A ws_s) (hNr : Neutral A ws_r)
    (hsst : sst ∈ V12) (hrst : rst ∈ V12)
    (hUs : sst ∈ upperStyles → UpperSafe A ws_s) (hUr : rst ∈ upperStyles → UpperSafe A ws_r)
    (hst : st ∈ styles.getD Gen.variantMapDefaultStyles) (hst12 : st ∈ V12)
    (hcol : ∀ st' ∈ styles.getD Gen.variantMapDefaultStyles,
      ∀ m ∈ (variantModels plurals sing plur (parse A (toStyle A ws_s sst)) (parse A (toStyle A ws_r rst))).tail,
        toStyle A m.1 st' ≠ toStyle A ws_s st)
    (hov : ¬ (styles = none ∧ isAmb = false ∧ st = sst ∧ sst ≠ rst)) :
    (variantMap A styles plurals sing plur isAmb (toStyle A ws_s sst) (toStyle A ws_r rst)).lookup
      (toStyle A ws_s st) = some (toStyle A ws_r st) := by
  have hS' : ∀ st', toStyle A (parse A (toStyle A ws_s sst)) st' = toStyle A ws_s st' :=
    toStyle_parse_toStyle hA hS hws hNs hsst hUs
  have hR' : ∀ st', toStyle A (parse A (toStyle A ws_r rst)) st' = toStyle A ws_r st' :=
    toStyle_parse_toStyle hA hS hwr hNr hrst hUr
  have hrows : (variantRows A (styles.getD Gen.variantMapDefaultStyles)
      (variantModels plurals sing plur (parse A (toStyle A ws_s sst)) (parse A (toStyle A ws_r rst)))).lookup
      (toStyle A ws_s st) = some (toStyle A ws_r st) := by
    apply List.lookup_of_all
    · refine ⟨(toStyle A (parse A (toStyle A ws_s sst)) st, toStyle A (parse A (toStyle A ws_r rst)) st), ?_, hS' st⟩
      rw [mem_variantRows]
      exact ⟨st, hst, (_, _), by rw [variantModels]; exact List.mem_cons_self .., rfl⟩
    · intro e he hek
      rw [mem_variantRows] at he
      obtain ⟨st', hst', m, hm, rfl⟩ := he
      rw [variantModels] at hm
      rcases List.mem_cons.mp hm with rfl | hm
      · simp only [hS', hR'] at hek ⊢
        rw [toStyle_inj A h2 hws hst12 hek]
      · exact absurd hek (hcol st' hst' m hm)
  simp only [variantMap]
  split
  · next hc =>
    simp only [Bool.and_eq_true, Option.isNone_iff_eq_none, Bool.not_eq_true'] at hc
    rw [lookup_insertOverride]
    split
    · next hk =>
      rw [beq_iff_eq] at hk
      have hst_eq : st = sst := toStyle_inj A h2 hws hsst hk
      have hsr : sst = rst := by
        by_cases h : sst = rst
        · exact h
        · exact absurd ⟨hc.1, hc.2, hst_eq, h⟩ hov
      rw [hst_eq, hsr]
    · rw [lookup_buildMap]; exact hrows
  · rw [lookup_buildMap]; exact hrows

end CaseModel
