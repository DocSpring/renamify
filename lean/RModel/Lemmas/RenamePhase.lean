import RModel.Model.Apply
import RModel.Lemmas.Tree
import RModel.Lemmas.SortPerm
import RModel.Lemmas.ContentPhase
/- The rename phase (STEP 3 of `apply_plan`) against the reference semantics `finalPath`; then the pre-flight loop and
   `applyPlan` as a whole.  Property theorems are in `RModel/Props/C02ren.lean`. -/

namespace RenamePhase
open Fs Apply

/-- new last component planned for the node originally at `p`, if any -/
def newName (rs : List Ren) (p : Path) : Option Bytes :=
  (rs.find? (fun r => r.path == p)).bind (fun r => r.newPath.getLast?)

def go (rs : List Ren) : Path → Path → Path
  | _, [] => []
  | pre, c :: rest => (newName rs (pre ++ [c])).getD c :: go rs (pre ++ [c]) rest

/-- final location of the node originally at `q` -/
def finalPath (rs : List Ren) (q : Path) : Path := go rs [] q

def moveAll (rs : List Ren) (t : Tree) : Tree := t.map (fun e => (finalPath rs e.1, e.2))

theorem go_length (rs : List Ren) (p q : Path) : (go rs p q).length = q.length := by
  induction q generalizing p with
  | nil => rfl
  | cons c q ih => rw [go, List.length_cons, ih, List.length_cons]

theorem finalPath_length (rs : List Ren) (q : Path) : (finalPath rs q).length = q.length :=
  go_length rs [] q

theorem go_append (rs : List Ren) (p s s' : Path) :
    go rs p (s ++ s') = go rs p s ++ go rs (p ++ s) s' := by
  induction s generalizing p with
  | nil => rw [List.append_nil]; rfl
  | cons c s ih => rw [List.cons_append, go, go, ih, List.append_assoc]; rfl

theorem finalPath_append (rs : List Ren) (p s : Path) :
    finalPath rs (p ++ s) = finalPath rs p ++ go rs p s :=
  go_append rs [] p s

theorem finalPath_snoc (rs : List Ren) (p : Path) (c : Bytes) :
    finalPath rs (p ++ [c]) = finalPath rs p ++ [(newName rs (p ++ [c])).getD c] :=
  finalPath_append rs p [c]

theorem finalPath_nil (rs : List Ren) : finalPath rs [] = [] := rfl

theorem finalPath_eq_nil {rs : List Ren} {p : Path} : finalPath rs p = [] ↔ p = [] := by
  rw [← List.length_eq_zero_iff, finalPath_length, List.length_eq_zero_iff]

theorem go_congr (rs rs' : List Ren) (p s : Path)
    (h : ∀ s1 s2, s = s1 ++ s2 → s1 ≠ [] → newName rs (p ++ s1) = newName rs' (p ++ s1)) :
    go rs p s = go rs' p s := by
  induction s generalizing p with
  | nil => rfl
  | cons c s ih =>
    rw [go, go, h [c] s rfl (List.cons_ne_nil c []), ih (p ++ [c])]
    intro s1 s2 hs _
    rw [List.append_assoc]
    exact h (c :: s1) s2 (congrArg (c :: ·) hs) (List.cons_ne_nil c s1)

theorem go_nil (p s : Path) : go [] p s = s := by
  induction s generalizing p with
  | nil => rfl
  | cons c s ih => rw [go, ih]; rfl

theorem go_eq_self (rs : List Ren) (p s : Path)
    (h : ∀ s1 s2, s = s1 ++ s2 → s1 ≠ [] → newName rs (p ++ s1) = none) :
    go rs p s = s :=
  (go_congr rs [] p s h).trans (go_nil p s)

theorem finalPath_congr (rs rs' : List Ren) (q : Path)
    (h : ∀ u, pre u q = true → newName rs u = newName rs' u) : finalPath rs q = finalPath rs' q :=
  go_congr rs rs' [] q fun s1 s2 hs _ => h s1 (pre_iff.2 ⟨s2, hs⟩)

def Distinct (rs : List Ren) : Prop := rs.Pairwise (fun x y => x.path ≠ y.path)

theorem newName_none {rs : List Ren} {u : Path} (h : ∀ r ∈ rs, r.path ≠ u) : newName rs u = none := by
  rw [newName, List.find?_eq_none.2 fun r hr => mt beq_iff_eq.1 (h r hr)]; rfl

theorem newName_some {rs : List Ren} {u : Path} {c : Bytes} (h : newName rs u = some c) :
    ∃ r ∈ rs, r.path = u ∧ r.newPath.getLast? = some c := by
  obtain ⟨r, hf, hc⟩ := Option.bind_eq_some_iff.1 h
  have hp := List.find?_some hf
  exact ⟨r, List.mem_of_find?_eq_some hf, beq_iff_eq.1 hp, hc⟩

theorem newName_of_mem {rs : List Ren} (hd : Distinct rs) {r : Ren} (hr : r ∈ rs) :
    newName rs r.path = r.newPath.getLast? := by
  obtain ⟨as, bs, rfl⟩ := List.append_of_mem hr
  have : (as ++ r :: bs).find? (fun x => x.path == r.path) = some r :=
    List.find?_eq_some_iff_append.2 ⟨beq_self_eq_true _, as, bs, rfl, fun a ha =>
      Bool.not_eq_true' _ ▸ beq_false_of_ne ((List.pairwise_append.1 hd).2.2 a ha r List.mem_cons_self)⟩
  rw [newName, this]; rfl

theorem newName_append_ne (done : List Ren) (r : Ren) {u : Path} (h : u ≠ r.path) :
    newName (done ++ [r]) u = newName done u := by
  have : [r].find? (fun r => r.path == u) = none := by
    rw [List.find?_singleton, if_neg (mt beq_iff_eq.1 h.symm)]
  rw [newName, List.find?_append, this, Option.or_none]; rfl

theorem newName_cons_ne (x : Ren) (R : List Ren) {u : Path} (h : x.path ≠ u) :
    newName (x :: R) u = newName R u := by
  have : (x.path == u) = false := by simpa using h
  rw [newName, List.find?_cons, this]; rfl

def LastOnly (rs : List Ren) : Prop :=
  ∀ r ∈ rs, r.path ≠ [] ∧ r.newPath ≠ [] ∧ r.newPath.dropLast = r.path.dropLast

def DistinctDests (rs : List Ren) : Prop :=
  ∀ r ∈ rs, ∀ r' ∈ rs, r.newPath = r'.newPath → r.path = r'.path

def Fresh (rs : List Ren) (q : Path) : Prop :=
  ∀ r ∈ rs, pre r.newPath q = true → r.newPath = r.path

theorem Fresh.prefix {rs : List Ren} {p q : Path} (h : Fresh rs q) (hp : pre p q = true) : Fresh rs p :=
  fun r hr hpre => h r hr (pre_trans hpre hp)

theorem Fresh.mono {rs rs' : List Ren} {q : Path} (h : Fresh rs q) (hs : ∀ r ∈ rs', r ∈ rs) : Fresh rs' q :=
  fun r hr hpre => h r (hs r hr) hpre

theorem Fresh.left {L L' : List Ren} {q : Path} (h : Fresh (L ++ L') q) : Fresh L q :=
  h.mono fun _ => List.mem_append_left _

theorem LastOnly.mono {L L' : List Ren} (h : LastOnly L) (hs : ∀ r ∈ L', r ∈ L) : LastOnly L' :=
  fun r hr => h r (hs r hr)

theorem DistinctDests.mono {L L' : List Ren} (h : DistinctDests L) (hs : ∀ r ∈ L', r ∈ L) : DistinctDests L' :=
  fun a ha b hb => h a (hs a ha) b (hs b hb)

theorem lastOnly_shape {rs : List Ren} (h : LastOnly rs) {r : Ren} (hr : r ∈ rs) :
    ∃ par x c, r.path = par ++ [x] ∧ r.newPath = par ++ [c] := by
  obtain ⟨h1, h2, h3⟩ := h r hr
  obtain ⟨x, hx⟩ := eq_dropLast_snoc r.path h1
  obtain ⟨c, hc⟩ := eq_dropLast_snoc r.newPath h2
  exact ⟨r.path.dropLast, x, c, hx, h3 ▸ hc⟩

theorem lastOnly_length {R : List Ren} (h : LastOnly R) {r : Ren} (hr : r ∈ R) :
    r.newPath.length = r.path.length := by
  obtain ⟨par, a, c, hp, hn⟩ := lastOnly_shape h hr
  rw [hp, hn]; simp

theorem snoc_cancel {p : Path} {a b : Bytes} (h : p ++ [a] = p ++ [b]) : a = b :=
  List.singleton_inj.1 (List.append_cancel_left h)

theorem newName_lastOnly {rs : List Ren} (h : LastOnly rs) {p : Path} {a c : Bytes}
    (hn : newName rs (p ++ [a]) = some c) : ∃ r ∈ rs, r.path = p ++ [a] ∧ r.newPath = p ++ [c] := by
  obtain ⟨r, hr, hp, hl⟩ := newName_some hn
  refine ⟨r, hr, hp, ?_⟩
  obtain ⟨par, x, c', h1, h2⟩ := lastOnly_shape h hr
  rw [h2, List.getLast?_concat] at hl
  rw [h2, (List.append_inj' (h1.symm.trans hp) rfl).1, Option.some.inj hl]

theorem name_inj_some {rs : List Ren} (hlo : LastOnly rs) (hdd : DistinctDests rs) {p : Path} {a b c : Bytes}
    (fa : Fresh rs (p ++ [a])) (hb : newName rs (p ++ [b]) = some c)
    (h : (newName rs (p ++ [a])).getD a = c) : a = b := by
  obtain ⟨r, hr, hp, hn⟩ := newName_lastOnly hlo hb
  cases ha : newName rs (p ++ [a]) with
  | none =>
    rw [ha] at h
    have hac : a = c := h
    have := fa r hr (by rw [hn, hac]; exact pre_refl _)
    exact hac.trans (snoc_cancel (by rw [← hn, this, hp]))
  | some c1 =>
    rw [ha] at h
    have hcc : c1 = c := h
    obtain ⟨r1, hr1, hp1, hn1⟩ := newName_lastOnly hlo ha
    exact snoc_cancel (by rw [← hp1, ← hp]; exact hdd r1 hr1 r hr (by rw [hn1, hn, hcc]))

theorem name_inj {rs : List Ren} (hlo : LastOnly rs) (hdd : DistinctDests rs) {p : Path} {a b : Bytes}
    (fa : Fresh rs (p ++ [a])) (fb : Fresh rs (p ++ [b]))
    (h : (newName rs (p ++ [a])).getD a = (newName rs (p ++ [b])).getD b) : a = b := by
  cases hb : newName rs (p ++ [b]) with
  | some c => exact name_inj_some hlo hdd fa hb (by rw [h, hb]; rfl)
  | none =>
    cases ha : newName rs (p ++ [a]) with
    | some c => exact (name_inj_some hlo hdd fb ha (by rw [← h, ha]; rfl)).symm
    | none => rw [ha, hb] at h; exact h

theorem go_prefix {rs : List Ren} (hlo : LastOnly rs) (hdd : DistinctDests rs) :
    ∀ (u p v : Path), Fresh rs (p ++ u) → Fresh rs (p ++ v) → go rs p u <+: go rs p v → u <+: v := by
  intro u
  induction u with
  | nil => intro p v _ _ _; exact List.nil_prefix
  | cons a u ih =>
    intro p v fu fv h
    cases v with
    | nil => exact nomatch List.prefix_nil.1 h
    | cons b v =>
      rw [go, go, List.cons_prefix_cons] at h
      have hab : a = b :=
        name_inj hlo hdd (fu.prefix (pre_iff.2 ⟨u, List.append_cons p a u⟩))
          (fv.prefix (pre_iff.2 ⟨v, List.append_cons p b v⟩)) h.1
      subst hab
      rw [List.append_cons] at fu fv
      exact List.cons_prefix_cons.2 ⟨rfl, ih (p ++ [a]) v fu fv h.2⟩

theorem pre_of_pre_finalPath {rs : List Ren} (hlo : LastOnly rs) (hdd : DistinctDests rs) {u q : Path}
    (fu : Fresh rs u) (fq : Fresh rs q) (h : pre (finalPath rs u) (finalPath rs q) = true) :
    pre u q = true :=
  pre_iff_prefix.2 (go_prefix hlo hdd u [] q fu fq (pre_iff_prefix.1 h))

theorem finalPath_inj {rs : List Ren} (hlo : LastOnly rs) (hdd : DistinctDests rs) {u v : Path}
    (fu : Fresh rs u) (fv : Fresh rs v) (h : finalPath rs u = finalPath rs v) : u = v :=
  pre_eq_of_length (pre_of_pre_finalPath hlo hdd fu fv (h ▸ pre_refl _))
    (Nat.le_of_eq (by rw [← finalPath_length rs v, ← h, finalPath_length]))

theorem finalPath_of_fresh {rs : List Ren} (hlo : LastOnly rs) :
    ∀ u : Path, Fresh rs (finalPath rs u) → finalPath rs u = u := by
  refine snoc_induction (fun _ => rfl) fun p y ih hq => ?_
  rw [finalPath_snoc] at hq ⊢
  have hp := ih (hq.prefix (pre_append _ _))
  rw [hp] at hq ⊢
  cases hn : newName rs (p ++ [y]) with
  | none => rfl
  | some c =>
    obtain ⟨d, hd, hdp, hdn⟩ := newName_lastOnly hlo hn
    rw [hn] at hq
    show p ++ [c] = p ++ [y]
    rw [← hdn, ← hdp]
    exact hq d hd (by rw [hdn]; exact pre_refl _)

theorem append_ne_self {p s : Path} (hs : s ≠ []) : p ++ s ≠ p :=
  fun h => hs (List.append_right_eq_self.1 h)

theorem finalPath_nil_left (q : Path) : finalPath [] q = q := go_nil [] q

theorem finalPath_eq_self (rs : List Ren) (q : Path) (h : ∀ r ∈ rs, pre r.path q = false) :
    finalPath rs q = q :=
  go_eq_self rs [] q fun _ s2 hs _ => newName_none fun r hr he =>
    Bool.eq_false_iff.1 (h r hr) (pre_iff.2 ⟨s2, he ▸ hs⟩)

theorem finalPath_snoc_of_ne {rs : List Ren} {p : Path} {y : Bytes} (h : ∀ r ∈ rs, r.path ≠ p ++ [y]) :
    finalPath rs (p ++ [y]) = finalPath rs p ++ [y] := by
  rw [finalPath_snoc, newName_none h]; rfl

theorem finalPath_concat_of_not_pre (done : List Ren) (r : Ren) {q : Path} (h : pre r.path q = false) :
    finalPath (done ++ [r]) q = finalPath done q :=
  finalPath_congr _ _ _ fun _ hu => newName_append_ne done r fun he => Bool.eq_false_iff.1 h (he ▸ hu)

def Ord (L : List Ren) : Prop := L.Pairwise (fun x y => pre y.path x.path = false)

theorem Ord.distinct {L : List Ren} (h : Ord L) : Distinct L := by
  refine List.Pairwise.imp ?_ h
  intro a b hab he
  exact Bool.eq_false_iff.1 hab (he ▸ pre_refl _)

theorem Ord.concat {done : List Ren} {r : Ren} (h : Ord (done ++ [r])) :
    Ord done ∧ ∀ d ∈ done, pre r.path d.path = false :=
  have h := List.pairwise_append.1 h
  ⟨h.1, fun d hd => h.2.2 d hd r List.mem_cons_self⟩

def FreshSrc (L : List Ren) : Prop := ∀ x ∈ L, Fresh L x.path

/-- `L` is in the order in which the renames are performed -/
structure PlanOk (L : List Ren) : Prop where
  ord : Ord L
  lastOnly : LastOnly L
  distinctDests : DistinctDests L
  freshSrc : FreshSrc L

theorem PlanOk.left {L L' : List Ren} (h : PlanOk (L ++ L')) : PlanOk L :=
  have hm : ∀ r ∈ L, r ∈ L ++ L' := fun _ => List.mem_append_left _
  ⟨(List.pairwise_append.1 h.ord).1, h.lastOnly.mono hm, h.distinctDests.mono hm,
    fun x hx => (h.freshSrc x (hm x hx)).mono hm⟩

theorem next_shape {done : List Ren} {r : Ren} (h : PlanOk (done ++ [r])) :
    ∃ par x c, r.path = par ++ [x] ∧ r.newPath = par ++ [c] ∧
      (∀ d ∈ done, d.path ≠ r.path) ∧ (∀ d ∈ done, d.path ≠ r.newPath) := by
  obtain ⟨par, x, c, hp, hn⟩ := lastOnly_shape h.lastOnly List.mem_concat_self
  have hnot : ∀ d ∈ done, d.path ≠ r.path := fun d hd he =>
    Bool.eq_false_iff.1 (h.ord.concat.2 d hd) (he ▸ pre_refl _)
  exact ⟨par, x, c, hp, hn, hnot, fun d hd he => hnot d hd
    (he.trans (h.freshSrc d (List.mem_append_left _ hd) r List.mem_concat_self (he ▸ pre_refl _)))⟩

theorem step {done : List Ren} {r : Ren} (h : PlanOk (done ++ [r])) {q : Path} (fq : Fresh (done ++ [r]) q) :
    subst (finalPath done r.path) (finalPath done r.newPath) (finalPath done q) = finalPath (done ++ [r]) q := by
  obtain ⟨par, x, c, hp, hn, hnot, hnot2⟩ := next_shape h
  cases hpre : pre r.path q with
  | true =>
    obtain ⟨s, rfl⟩ := pre_iff.1 hpre
    -- above `r.path` nothing changes, at `r.path` the new name is `c`, below it nothing changes
    have h1 : finalPath (done ++ [r]) par = finalPath done par :=
      finalPath_concat_of_not_pre done r (hp ▸ pre_snoc_self par x)
    have h2 : newName (done ++ [r]) (par ++ [x]) = some c := by
      rw [← hp, newName_of_mem h.ord.distinct List.mem_concat_self, hn, List.getLast?_concat]
    have h3 : go (done ++ [r]) (par ++ [x]) s = go done (par ++ [x]) s :=
      go_congr _ _ _ _ fun s1 s2 _ hne => newName_append_ne done r (hp ▸ append_ne_self hne)
    rw [finalPath_append done, subst_append, finalPath_append (done ++ [r]), hn, finalPath_snoc_of_ne (hn ▸ hnot2),
      hp, finalPath_snoc (done ++ [r]), h1, h2, h3]
    rfl
  | false =>
    have h1 : pre (finalPath done r.path) (finalPath done q) = false :=
      Bool.eq_false_iff.2 fun h' => Bool.eq_false_iff.1 hpre
        (pre_of_pre_finalPath h.left.lastOnly h.left.distinctDests (h.freshSrc r List.mem_concat_self).left fq.left h')
    rw [subst_of_not_pre h1, finalPath_concat_of_not_pre done r hpre]

theorem finalPath_concat_self {done : List Ren} {r : Ren} (h : PlanOk (done ++ [r])) :
    finalPath (done ++ [r]) r.path = finalPath done r.newPath := by
  rw [← step h (h.freshSrc r List.mem_concat_self), subst_same]

/-- the list `renames_performed` after the renames `done`: every source with the place where it is now -/
def perfOf (done : List Ren) : List (Path × Path) := done.map (fun d => (d.path, finalPath done d.path))

theorem perfOf_concat {done : List Ren} {r : Ren} (h : ∀ d ∈ done, pre r.path d.path = false) :
    perfOf (done ++ [r]) = perfOf done ++ [(r.path, finalPath (done ++ [r]) r.path)] := by
  rw [perfOf, List.map_append]
  exact congrArg (· ++ _) (List.map_congr_left fun d hd => by rw [finalPath_concat_of_not_pre done r (h d hd)])

theorem perfOf_next {done : List Ren} {r : Ren} (h : PlanOk (done ++ [r])) :
    perfOf done ++ [(r.path, finalPath done r.newPath)] = perfOf (done ++ [r]) := by
  rw [perfOf_concat h.ord.concat.2, finalPath_concat_self h]

theorem rebase_snoc (perf : List (Path × Path)) (e : Path × Path) (p : Path) :
    rebase (perf ++ [e]) p = if pre e.1 p then e.2 ++ p.drop e.1.length else rebase perf p := by
  rw [rebase, List.foldl_append]; rfl

theorem trailingSlash_snoc (perf : List (Path × Path)) (e : Path × Path) (p : Path) :
    trailingSlash (perf ++ [e]) p = if pre e.1 p then e.1 == p else trailingSlash perf p := by
  rw [trailingSlash, List.foldl_append]; rfl

theorem trailingSlash_eq_false {perf : List (Path × Path)} {p : Path} (h : ∀ e ∈ perf, e.1 ≠ p) :
    trailingSlash perf p = false := by
  induction perf using snoc_induction with
  | hnil => rfl
  | hsnoc l e ih =>
    rw [trailingSlash_snoc, ih fun e' he' => h e' (List.mem_append_left _ he'),
      beq_false_of_ne (h e List.mem_concat_self), ite_self]

theorem trailingSlash_perfOf {done : List Ren} {p : Path} (h : ∀ d ∈ done, d.path ≠ p) :
    trailingSlash (perfOf done) p = false :=
  trailingSlash_eq_false (List.forall_mem_map.2 h)

/-- with the performed renames in a prefix-respecting order, "the last matching prefix wins" computes where `p` is now -/
theorem rebase_perfOf {done : List Ren} (hord : Ord done) (p : Path) :
    rebase (perfOf done) p = finalPath done p := by
  induction done using snoc_induction with
  | hnil => exact (finalPath_nil_left p).symm
  | hsnoc l d ih =>
    obtain ⟨hl, hd⟩ := hord.concat
    rw [perfOf_concat hd, rebase_snoc]
    cases hpre : pre d.path p with
    | true =>
      obtain ⟨s, rfl⟩ := pre_iff.1 hpre
      rw [if_pos rfl, List.drop_left, finalPath_append]
      congr 1
      -- no source lies strictly between `d.path` and `p`: it would have come before `d`
      refine (go_eq_self _ d.path s fun s1 s2 _ hne => newName_none fun x hx he => ?_).symm
      rcases List.mem_append.1 hx with hm | hm
      · exact Bool.eq_false_iff.1 (hd x hm) (he ▸ pre_append _ _)
      · exact append_ne_self hne (List.mem_singleton.1 hm ▸ he).symm
    | false => rw [if_neg Bool.false_ne_true, ih hl, finalPath_concat_of_not_pre l d hpre]

theorem finalPath_done_eq (L done : List Ren) (hdL : Distinct L) (hdd : Distinct done)
    (hsub : ∀ x ∈ done, x ∈ L) (p : Path) (hall : ∀ x ∈ L, pre x.path p = true → x ∈ done) :
    finalPath done p = finalPath L p := by
  refine finalPath_congr _ _ _ fun u hu => ?_
  by_cases hex : ∃ x ∈ L, x.path = u
  · obtain ⟨x, hx, rfl⟩ := hex
    rw [newName_of_mem hdL hx, newName_of_mem hdd (hall x hx hu)]
  · rw [newName_none fun r hr he => hex ⟨r, hsub r hr, he⟩, newName_none fun r hr he => hex ⟨r, hr, he⟩]

theorem insertBy_eq (le : Ren → Ren → Bool) (x : Ren) (l : List Ren) : insertBy le x l = Scan.insertBy le x l := by
  induction l with
  | nil => rfl
  | cons y ys ih => rw [insertBy, Scan.insertBy, ih]

theorem sortBy_eq (le : Ren → Ren → Bool) (l : List Ren) : sortBy le l = Scan.sortBy le l := by
  induction l with
  | nil => rfl
  | cons x xs ih => rw [sortBy, Scan.sortBy, insertBy_eq, ih]

theorem sortBy_perm (le : Ren → Ren → Bool) (l : List Ren) : List.Perm (sortBy le l) l :=
  sortBy_eq le l ▸ SortPerm.sortBy_perm le l

theorem sortBy_decide_sorted (R : Ren → Ren → Prop) [DecidableRel R] (htot : ∀ a b, R a b ∨ R b a)
    (htr : ∀ a b c, R a b → R b c → R a c) (l : List Ren) :
    (sortBy (fun a b => decide (R a b)) l).Pairwise R :=
  sortBy_eq _ l ▸ (SortPerm.sortBy_sorted
    ⟨fun a b => (htot a b).imp decide_eq_true decide_eq_true,
     fun a b c h1 h2 => decide_eq_true (htr a b c (of_decide_eq_true h1) (of_decide_eq_true h2))⟩ l).imp of_decide_eq_true

theorem kinds_perm (rs : List Ren) :
    List.Perm (rs.filter (fun r => r.kind == .dir) ++ rs.filter (fun r => r.kind == .file)) rs := by
  have : ∀ r : Ren, (r.kind == Kind.file) = !(r.kind == Kind.dir) := fun r => by cases r.kind <;> rfl
  rw [List.filter_congr (fun r _ => this r)]
  exact List.filter_append_perm _ rs

/-- for any two orders: `sortRens` here, the planner's `sortPlan` -/
theorem sortBy_kinds_perm (le le' : Ren → Ren → Bool) (rs : List Ren) :
    List.Perm (sortBy le (rs.filter (fun r => r.kind == .dir)) ++ sortBy le' (rs.filter (fun r => r.kind == .file))) rs :=
  ((sortBy_perm _ _).append (sortBy_perm _ _)).trans (kinds_perm rs)

theorem sortRens_perm (rs : List Ren) : List.Perm (sortRens rs) rs := sortBy_kinds_perm _ _ rs

theorem mem_sortRens {rs : List Ren} {r : Ren} : r ∈ sortRens rs ↔ r ∈ rs :=
  (sortRens_perm rs).mem_iff

def dirPart (rs : List Ren) : List Ren :=
  sortBy (fun a b => decide (depth a.path ≤ depth b.path)) (rs.filter (fun r => r.kind == .dir))

def filePart (rs : List Ren) : List Ren :=
  sortBy (fun a b => decide (depth b.path ≤ depth a.path)) (rs.filter (fun r => r.kind == .file))

theorem sortRens_eq (rs : List Ren) : sortRens rs = dirPart rs ++ filePart rs := rfl

theorem mem_dirPart {rs : List Ren} {r : Ren} : r ∈ dirPart rs ↔ r ∈ rs ∧ r.kind = .dir := by
  rw [dirPart, (sortBy_perm _ _).mem_iff, List.mem_filter, beq_iff_eq]

theorem mem_filePart {rs : List Ren} {r : Ren} : r ∈ filePart rs ↔ r ∈ rs ∧ r.kind = .file := by
  rw [filePart, (sortBy_perm _ _).mem_iff, List.mem_filter, beq_iff_eq]

theorem dirPart_sorted (rs : List Ren) :
    (dirPart rs).Pairwise (fun a b => a.path.length ≤ b.path.length) :=
  sortBy_decide_sorted (fun a b => depth a.path ≤ depth b.path) (fun _ _ => Nat.le_total _ _)
    (fun _ _ _ => Nat.le_trans) _

theorem filePart_sorted (rs : List Ren) :
    (filePart rs).Pairwise (fun a b => b.path.length ≤ a.path.length) :=
  sortBy_decide_sorted (fun a b => depth b.path ≤ depth a.path) (fun _ _ => Nat.le_total _ _)
    (fun _ _ _ h1 h2 => Nat.le_trans h2 h1) _

def FileLeaf (rs : List Ren) : Prop :=
  ∀ f ∈ rs, f.kind = .file → ∀ r ∈ rs, pre f.path r.path = true → f.path = r.path

theorem Distinct.perm {l1 l2 : List Ren} (p : List.Perm l1 l2) (h : Distinct l1) : Distinct l2 :=
  (p.pairwise_iff (fun h e => h e.symm)).1 h

theorem sortRens_ord (rs : List Ren) (hd : Distinct rs) (hfl : FileLeaf rs) : Ord (sortRens rs) := by
  have hdS : Distinct (dirPart rs ++ filePart rs) := Distinct.perm (sortRens_perm rs).symm hd
  have hdS := List.pairwise_append.1 hdS
  rw [Ord, sortRens_eq]
  have hfile : ∀ a ∈ rs, ∀ b ∈ filePart rs, a.path ≠ b.path → pre b.path a.path = false :=
    fun a ha b hb hne => Bool.eq_false_iff.2 fun h =>
      hne (hfl b (mem_filePart.1 hb).1 (mem_filePart.1 hb).2 a ha h).symm
  refine List.pairwise_append.2 ⟨?_, ?_, fun a ha b hb => hfile a (mem_dirPart.1 ha).1 b hb (hdS.2.2 a ha b hb)⟩
  · exact (dirPart_sorted rs).imp₂ (fun a b hlen hne => Bool.eq_false_iff.2 fun h =>
      hne (pre_eq_of_length h hlen).symm) hdS.1
  · exact hdS.2.1.imp_of_mem fun ha hb hne => hfile _ (mem_filePart.1 ha).1 _ hb hne

theorem rename_of_renameTS {t t' : Tree} {a b : Path} {sa sb : Bool} (h : renameTS t a sa b sb = .ok t') :
    rename t a b = .ok t' := by
  rw [renameTS] at h
  by_cases hc : ((sa || sb) && !(isDir t a) && (lookup t a).isSome) = true
  · rw [if_pos hc] at h; cases h
  · rwa [if_neg hc] at h

theorem renamePhase_cons (t : Tree) (perf : List (Path × Path)) (r : Ren) (rs : List Ren) :
    (∃ t', renameTS t (rebase perf r.path) (trailingSlash perf r.path) (rebase perf r.newPath)
        (trailingSlash perf r.newPath) = .ok t' ∧
      renamePhase t perf (r :: rs) = renamePhase t' (perf ++ [(r.path, rebase perf r.newPath)]) rs) ∨
    ∃ o, renamePhase t perf (r :: rs) =
        { outcome := o, tree := (rollback t (rollbackList perf).reverse none).1, performed := perf } ∧
      ((∃ e, o = .renameFailed e) ∨ ∃ e, o = .rollbackFailed e) := by
  rw [renamePhase]
  cases renameTS t (rebase perf r.path) (trailingSlash perf r.path) (rebase perf r.newPath)
      (trailingSlash perf r.newPath) with
  | ok t' => exact Or.inl ⟨t', rfl, rfl⟩
  | error e =>
    cases hrb : rollback t (rollbackList perf).reverse none with
    | mk t' oe => cases oe with
      | none => exact Or.inr ⟨_, rfl, Or.inl ⟨e, rfl⟩⟩
      | some e' => exact Or.inr ⟨_, rfl, Or.inr ⟨e', rfl⟩⟩

theorem renamePhase_outcome : ∀ (rs : List Ren) (t : Tree) (perf : List (Path × Path)),
    (renamePhase t perf rs).outcome = .ok ∨ (∃ e, (renamePhase t perf rs).outcome = .renameFailed e) ∨
      ∃ e, (renamePhase t perf rs).outcome = .rollbackFailed e := by
  intro rs
  induction rs with
  | nil => intro t perf; exact Or.inl rfl
  | cons r rs ih =>
    intro t perf
    rcases renamePhase_cons t perf r rs with ⟨t', _, heq⟩ | ⟨o, heq, ho⟩
    · rw [heq]; exact ih _ _
    · rw [heq]; exact Or.inr ho

structure TreeOk (t : Tree) (L : List Ren) : Prop where
  fresh : ∀ e ∈ t, Fresh L e.1
  src : ∀ r ∈ L, ∃ e ∈ t, e.1 = r.path
  par : ∀ r ∈ L, r.path.dropLast ≠ [] → ∃ m, lookup t r.path.dropLast = some (.dir m)

theorem TreeOk.freshSrc {t : Tree} {L : List Ren} (h : TreeOk t L) : FreshSrc L := by
  intro r hr
  obtain ⟨e, he, hp⟩ := h.src r hr
  exact hp ▸ h.fresh e he

theorem TreeOk.mono {t : Tree} {L L' : List Ren} (h : TreeOk t L) (hm : ∀ r ∈ L', r ∈ L) : TreeOk t L' where
  fresh := fun e he => (h.fresh e he).mono hm
  src := fun r hr => h.src r (hm r hr)
  par := fun r hr => h.par r (hm r hr)

def mapTree (F : Path → Path) (t : Tree) : Tree := t.map (fun e => (F e.1, e.2))

theorem mapTree_finalPath (rs : List Ren) (t : Tree) : mapTree (finalPath rs) t = moveAll rs t := rfl

theorem lookup_mapTree {rs : List Ren} {t : Tree} (hlo : LastOnly rs) (hdd : DistinctDests rs)
    (hfk : ∀ e ∈ t, Fresh rs e.1) {p : Path} (fp : Fresh rs p) :
    lookup (mapTree (finalPath rs) t) (finalPath rs p) = lookup t p :=
  lookup_map_inj _ t p fun e he heq => finalPath_inj hlo hdd (hfk e he) fp heq

/-- the rename `r` as the loop executes it after the renames `done`, on the tree as they have left it -/
theorem renameTS_step {t : Tree} {done : List Ren} {r : Ren} (h : PlanOk (done ++ [r])) (htree : TreeOk t (done ++ [r])) :
    renameTS (mapTree (finalPath done) t) (rebase (perfOf done) r.path) (trailingSlash (perfOf done) r.path)
        (rebase (perfOf done) r.newPath) (trailingSlash (perfOf done) r.newPath)
      = .ok (mapTree (finalPath (done ++ [r])) t) := by
  obtain ⟨par, x, c, hp, hn, hnot, hnot2⟩ := next_shape h
  have hd := h.left
  have hfr : Fresh done r.path := (h.freshSrc r List.mem_concat_self).left
  have hfk : ∀ e ∈ t, Fresh done e.1 := fun e he => (htree.fresh e he).left
  have hdst : finalPath done r.newPath = finalPath done par ++ [c] := hn ▸ finalPath_snoc_of_ne (hn ▸ hnot2)
  have hlen : (finalPath done r.path).length = (finalPath done r.newPath).length := by
    rw [finalPath_length, finalPath_length, hp, hn, List.length_append, List.length_append]; rfl
  rw [trailingSlash_perfOf hnot, trailingSlash_perfOf hnot2, rebase_perfOf hd.ord, rebase_perfOf hd.ord]
  change rename _ _ _ = _
  have hlk := fun p => lookup_mapTree hd.lastOnly hd.distinctDests hfk (p := p)
  obtain ⟨na, hna⟩ := lookup_some_of_mem t r.path (htree.src r List.mem_concat_self)
  have hl2 : parentOk (mapTree (finalPath done) t) (finalPath done r.newPath) = .ok () := by
    rw [hdst]
    simp only [parentOk, List.dropLast_concat]
    by_cases hpar : par = []
    · subst hpar; rfl
    · obtain ⟨m, hm⟩ := htree.par r List.mem_concat_self (by rwa [hp, List.dropLast_concat])
      rw [hp, List.dropLast_concat] at hm
      rw [if_neg fun h => hpar (finalPath_eq_nil.1 (List.isEmpty_iff.1 h)),
        hlk par (hfr.prefix (hp ▸ pre_append par [x])), hm]
  -- a key at the destination would, like the source, end at `finalPath (done ++ [r]) r.path`
  have hl4 : finalPath done r.path ≠ finalPath done r.newPath →
      lookup (mapTree (finalPath done) t) (finalPath done r.newPath) = none := by
    refine fun hne => lookup_map_none _ t _ fun e he heq => hne ?_
    have hpre : pre (finalPath done r.path) (finalPath done e.1) = false := Bool.eq_false_iff.2 fun h' =>
      hne (pre_eq_of_length h' (Nat.le_of_eq (heq ▸ hlen.symm)) ▸ heq)
    have e1 := step h (htree.fresh e he)
    rw [subst_of_not_pre hpre, heq, ← finalPath_concat_self h] at e1
    rw [← heq, finalPath_inj h.lastOnly h.distinctDests (htree.fresh e he) (h.freshSrc r List.mem_concat_self) e1.symm]
  rw [rename_move _ _ _ na ((hlk _ hfr).trans hna) hl2 hlen hl4, mapTree, mapTree, List.map_map]
  exact congrArg _ (List.map_congr_left fun e he => Prod.ext (step h (htree.fresh e he)) rfl)

theorem renamePhase_aux {t : Tree} : ∀ (todo done : List Ren), PlanOk (done ++ todo) → TreeOk t (done ++ todo) →
    renamePhase (mapTree (finalPath done) t) (perfOf done) todo =
      { outcome := .ok, tree := mapTree (finalPath (done ++ todo)) t, performed := perfOf (done ++ todo) } := by
  intro todo
  induction todo with
  | nil => intro done _ _; rw [List.append_nil]; rfl
  | cons r todo ih =>
    intro done h htree
    rw [List.append_cons] at h htree ⊢
    rw [renamePhase]
    simp only [renameTS_step h.left (htree.mono fun _ => List.mem_append_left _)]
    rw [rebase_perfOf h.left.left.ord, perfOf_next h.left]
    exact ih (done ++ [r]) h htree

theorem mapTree_nil (t : Tree) : mapTree (finalPath []) t = t := by
  simp only [mapTree, finalPath_nil_left, List.map_id']

theorem renamePhase_eq (t : Tree) (L : List Ren) (h : PlanOk L) (htree : TreeOk t L) :
    renamePhase t [] L = { outcome := .ok, tree := moveAll L t, performed := perfOf L } := by
  have := renamePhase_aux L [] h htree
  rwa [mapTree_nil, List.nil_append, mapTree_finalPath] at this

def isDirNode : Option Node → Bool
  | some (.dir _) => true
  | _ => false

theorem isDirNode_iff {o : Option Node} : isDirNode o = true ↔ ∃ m, o = some (.dir m) := by
  constructor
  · intro h
    match o, h with
    | some (.dir m), _ => exact ⟨m, rfl⟩
  · rintro ⟨m, rfl⟩; rfl

-- The guards as the property theorems state them (`C02ren.DistinctSources`, `TreeWF`, `KindsOk`, `DestFree` unfold to
-- these; `C02ren.TreeWF.toLemma`, `KindsOk.toLemma`), so that the lemmas here can speak of them.
def GDistinctSources (rs : List Ren) : Prop := rs.Pairwise (fun a b => a.path ≠ b.path)

def GTreeWF (t : Tree) : Prop :=
  t.Pairwise (fun a b => a.1 ≠ b.1) ∧ (∀ e ∈ t, e.1 ≠ []) ∧
  (∀ e ∈ t, e.1.dropLast ≠ [] → isDirNode (lookup t e.1.dropLast) = true)

def GKindsOk (t : Tree) (rs : List Ren) : Prop :=
  ∀ r ∈ rs, (lookup t r.path).isSome = true ∧ (r.kind = .dir ↔ isDirNode (lookup t r.path) = true)

def GDestFree (t : Tree) (rs : List Ren) : Prop :=
  ∀ r ∈ rs,
    (∀ e ∈ t, e.1 ≠ r.path → e.1.dropLast = r.path.dropLast → e.1.getLast? ≠ r.newPath.getLast?) ∧
    (∀ r' ∈ rs, r'.path ≠ r.path → r'.path.dropLast = r.path.dropLast →
      r'.newPath.getLast? ≠ r.newPath.getLast?)

theorem GDestFree.distinctDests {t : Tree} {rs : List Ren} (hlo : LastOnly rs) (h : GDestFree t rs) :
    DistinctDests rs := by
  intro r hr r' hr' he
  refine Decidable.by_contra fun hpp => (h r' hr').2 r hr hpp ?_ (by rw [he])
  rw [← (hlo r hr).2.2, ← (hlo r' hr').2.2, he]

theorem GKindsOk.src {t : Tree} {rs : List Ren} (h : GKindsOk t rs) {r : Ren} (hr : r ∈ rs) :
    ∃ e ∈ t, e.1 = r.path := by
  obtain ⟨n, hn⟩ := Option.isSome_iff_exists.1 (h r hr).1
  exact mem_of_lookup_some hn

theorem prefix_key {t : Tree} (hwf : GTreeWF t) {p : Path} (hp : p ≠ []) :
    ∀ s, ∀ e ∈ t, e.1 = p ++ s → s = [] ∨ isDirNode (lookup t p) = true := by
  intro s
  induction s using snoc_induction with
  | hnil => exact fun _ _ _ => Or.inl rfl
  | hsnoc s' y ih =>
    intro e he hk
    have hd := hwf.2.2 e he
    rw [hk, ← List.append_assoc, List.dropLast_concat] at hd
    have hd := hd (List.append_ne_nil_of_left_ne_nil hp _)
    obtain ⟨m, hm⟩ := isDirNode_iff.1 hd
    obtain ⟨e', he', hk'⟩ := mem_of_lookup_some hm
    refine Or.inr ((ih e' he' hk').elim (fun h0 => ?_) id)
    rwa [h0, List.append_nil] at hd

theorem fresh_keys {t : Tree} {rs : List Ren} (hwf : GTreeWF t) (hlo : LastOnly rs)
    (hdf : GDestFree t rs) : ∀ e ∈ t, Fresh rs e.1 := by
  intro e he r hr hpre
  -- the destination is a key, hence a sibling of the source with its new name: the source itself
  obtain ⟨s, hs⟩ := pre_iff.1 hpre
  obtain ⟨e', he', hk⟩ : ∃ e' ∈ t, e'.1 = r.newPath := by
    rcases prefix_key hwf (hlo r hr).2.1 s e he hs with rfl | hd
    · exact ⟨e, he, by rw [hs, List.append_nil]⟩
    · obtain ⟨m, hm⟩ := isDirNode_iff.1 hd
      exact mem_of_lookup_some hm
  refine Decidable.by_contra fun hne => (hdf r hr).1 e' he' (hk ▸ hne) ?_ (by rw [hk])
  rw [hk]; exact (hlo r hr).2.2

theorem treeOk_of_guards {t : Tree} {rs : List Ren} (hwf : GTreeWF t) (hlo : LastOnly rs)
    (hk : GKindsOk t rs) (hdf : GDestFree t rs) : TreeOk t rs where
  fresh := fresh_keys hwf hlo hdf
  src := fun _ hr => hk.src hr
  par := by
    intro r hr hne
    obtain ⟨e, he, hp⟩ := hk.src hr
    exact isDirNode_iff.1 (hp ▸ hwf.2.2 e he (hp ▸ hne))

theorem fileLeaf_of_guards {t : Tree} {rs : List Ren} (hwf : GTreeWF t) (hlo : LastOnly rs)
    (hk : GKindsOk t rs) : FileLeaf rs := by
  intro f hf hkind r hr hpre
  obtain ⟨s, hs⟩ := pre_iff.1 hpre
  obtain ⟨e, he, hp⟩ := hk.src hr
  rcases prefix_key hwf (hlo f hf).1 s e he (hp.trans hs) with rfl | hd
  · rw [hs, List.append_nil]
  · have := (hk f hf).2.2 hd
    rw [hkind] at this
    cases this

theorem finalPath_sortRens (rs : List Ren) (hd : Distinct rs) (q : Path) :
    finalPath (sortRens rs) q = finalPath rs q :=
  finalPath_done_eq rs (sortRens rs) hd (Distinct.perm (sortRens_perm rs).symm hd)
    (fun _ hx => mem_sortRens.1 hx) q (fun _ hx _ => mem_sortRens.2 hx)

theorem renamePhase_sortRens (t : Tree) (rs : List Ren) (hlo : LastOnly rs) (h2 : GDistinctSources rs)
    (h3 : GTreeWF t) (h4 : GKindsOk t rs) (h5 : GDestFree t rs) :
    renamePhase t [] (sortRens rs) =
      { outcome := .ok, tree := moveAll rs t,
        performed := (sortRens rs).map (fun r => (r.path, finalPath rs r.path)) } := by
  have hm : ∀ r ∈ sortRens rs, r ∈ rs := fun _ h => mem_sortRens.1 h
  have htree := (treeOk_of_guards h3 hlo h4 h5).mono hm
  rw [renamePhase_eq t (sortRens rs) ⟨sortRens_ord rs h2 (fileLeaf_of_guards h3 hlo h4), hlo.mono hm,
    (h5.distinctDests hlo).mono hm, htree.freshSrc⟩ htree]
  simp only [moveAll, perfOf, finalPath_sortRens rs h2]

theorem moveAll_nodes (rs : List Ren) (t : Tree) : (moveAll rs t).map (·.2) = t.map (·.2) := by
  rw [moveAll, List.map_map]; rfl

theorem moveAll_keys (rs : List Ren) (t : Tree) :
    (moveAll rs t).map (·.1) = t.map (fun e => finalPath rs e.1) := by
  rw [moveAll, List.map_map]; rfl

theorem moveAll_perm {l1 l2 : List Ren} (hd : Distinct l1) (p : List.Perm l1 l2) (t : Tree) :
    moveAll l2 t = moveAll l1 t := by
  have : ∀ q, finalPath l2 q = finalPath l1 q := fun q =>
    finalPath_done_eq l1 l2 hd (Distinct.perm p hd) (fun _ h => p.mem_iff.2 h) q (fun _ h _ => p.mem_iff.1 h)
  simp only [moveAll, this]

theorem lookup_moveAll {t : Tree} {rs : List Ren} (hlo : LastOnly rs) (h3 : GTreeWF t)
    (h5 : GDestFree t rs) {e : Path × Node} (he : e ∈ t) :
    lookup (moveAll rs t) (finalPath rs e.1) = lookup t e.1 := by
  have hfk := fresh_keys h3 hlo h5
  rw [← mapTree_finalPath]
  exact lookup_mapTree hlo (h5.distinctDests hlo) hfk (hfk e he)

theorem finalPath_source {rs : List Ren} (hlo : LastOnly rs) (hd : Distinct rs) {r : Ren} (hr : r ∈ rs) :
    ∃ c, r.newPath = r.path.dropLast ++ [c] ∧
      finalPath rs r.path = finalPath rs r.path.dropLast ++ [c] := by
  obtain ⟨par, x, c, hp, hn⟩ := lastOnly_shape hlo hr
  refine ⟨c, by rw [hn, hp, List.dropLast_concat], ?_⟩
  conv => lhs; rw [hp, finalPath_snoc, ← hp, newName_of_mem hd hr, hn, List.getLast?_concat]
  rw [hp, List.dropLast_concat]; rfl

def SameShape (t t' : Tree) : Prop :=
  t'.map (·.1) = t.map (·.1) ∧
  ∀ q, isDirNode (lookup t' q) = isDirNode (lookup t q) ∧ (lookup t' q).isSome = (lookup t q).isSome

theorem SameShape.refl (t : Tree) : SameShape t t := ⟨rfl, fun _ => ⟨rfl, rfl⟩⟩

theorem SameShape.trans {a b c : Tree} (h1 : SameShape a b) (h2 : SameShape b c) : SameShape a c :=
  ⟨h2.1.trans h1.1, fun q => ⟨(h2.2 q).1.trans (h1.2 q).1, (h2.2 q).2.trans (h1.2 q).2⟩⟩

theorem sameShape_setContent (t : Tree) (p : Path) (c : Bytes) : SameShape t (setContent t p c) := by
  refine ⟨keys_setContent t p c, fun q => ?_⟩
  rw [lookup_setContent]
  split
  · cases lookup t q with
    | none => exact ⟨rfl, rfl⟩
    | some n => cases n <;> exact ⟨rfl, rfl⟩
  · exact ⟨rfl, rfl⟩

theorem sameShape_contentPhase (hs : List Hunk) (fs : List Path) (t : Tree) :
    SameShape t (contentPhase hs t fs).2 :=
  ContentPhase.contentPhase_induct SameShape.refl SameShape.trans hs fs t fun t f _ c => sameShape_setContent t f c

theorem forall_keys {t t' : Tree} (h : t'.map (·.1) = t.map (·.1)) {P : Path → Prop}
    (hp : ∀ e ∈ t, P e.1) : ∀ e ∈ t', P e.1 := by
  intro e he
  have : e.1 ∈ t'.map (·.1) := List.mem_map.2 ⟨e, he, rfl⟩
  rw [h] at this
  obtain ⟨e0, he0, hk⟩ := List.mem_map.1 this
  exact hk ▸ hp e0 he0

theorem GTreeWF.sameShape {t t' : Tree} (h : GTreeWF t) (hs : SameShape t t') : GTreeWF t' := by
  refine ⟨?_, forall_keys hs.1 (P := fun k => k ≠ []) h.2.1, fun e he hne => ?_⟩
  · exact pairwise_keys_congr hs.1 h.1
  · rw [(hs.2 _).1]
    exact forall_keys hs.1 (P := fun k => k.dropLast ≠ [] → isDirNode (lookup t k.dropLast) = true) h.2.2 e he hne

theorem GKindsOk.sameShape {t t' : Tree} {rs : List Ren} (h : GKindsOk t rs) (hs : SameShape t t') :
    GKindsOk t' rs := by
  intro r hr
  rw [(hs.2 _).1, (hs.2 _).2]
  exact h r hr

theorem GDestFree.sameShape {t t' : Tree} {rs : List Ren} (h : GDestFree t rs) (hs : SameShape t t') :
    GDestFree t' rs :=
  fun r hr => ⟨forall_keys hs.1
    (P := fun k => k ≠ r.path → k.dropLast = r.path.dropLast → k.getLast? ≠ r.newPath.getLast?) (h r hr).1,
    (h r hr).2⟩

theorem sharesDest_eq_false {seen : List Ren} {r : Ren} : sharesDest seen r = false ↔
    (ExecFlags.sharedDestRefused = true → ∀ s ∈ seen, s.newPath = r.newPath → s.path = r.path) := by
  unfold sharesDest
  cases ExecFlags.sharedDestRefused with
  | false => exact ⟨fun _ h => (nomatch h), fun _ => rfl⟩
  | true =>
    rw [Bool.true_and, List.any_eq_false]
    simp only [Bool.and_eq_true, beq_iff_eq, bne_iff_ne, ne_eq, not_and, Decidable.not_not, forall_const]

theorem sharesDest_cons_eq_false {s : Ren} {seen : List Ren} {r : Ren} :
    sharesDest (s :: seen) r = false ↔
      (ExecFlags.sharedDestRefused = true → s.newPath = r.newPath → s.path = r.path) ∧ sharesDest seen r = false := by
  simp only [sharesDest_eq_false, List.forall_mem_cons]
  exact ⟨fun h => ⟨fun hf => (h hf).1, fun hf => (h hf).2⟩, fun h hf => ⟨h.1 hf, h.2 hf⟩⟩

theorem preflight_eq_none_iff {t : Tree} : ∀ (rs seen : List Ren), preflight t seen rs = none ↔
    (∀ r ∈ rs, skipRen r = false → (lookup t r.newPath).isSome = false ∧ sharesDest seen r = false) ∧
    rs.Pairwise (fun a b => skipRen a = false → skipRen b = false →
      ExecFlags.sharedDestRefused = true → a.newPath = b.newPath → a.path = b.path) := by
  intro rs
  induction rs with
  | nil => intro seen; exact ⟨fun _ => ⟨fun _ h => (nomatch h), List.Pairwise.nil⟩, fun _ => rfl⟩
  | cons r rs ih =>
    intro seen
    rw [preflight, List.forall_mem_cons, List.pairwise_cons]
    cases hs : skipRen r with
    | true =>
      rw [if_pos rfl, ih seen]
      exact ⟨fun ⟨a, p⟩ => ⟨⟨fun h => (nomatch h), a⟩, fun _ _ h => (nomatch h), p⟩, fun ⟨⟨_, a⟩, _, p⟩ => ⟨a, p⟩⟩
    | false =>
      rw [if_neg Bool.false_ne_true]
      cases hsh : sharesDest seen r with
      | true => rw [if_pos rfl]; exact ⟨fun h => (nomatch h), fun ⟨⟨h, _⟩, _⟩ => (nomatch (h rfl).2)⟩
      | false =>
        rw [if_neg Bool.false_ne_true]
        cases hl : (lookup t r.newPath).isSome with
        | true => rw [if_pos rfl]; exact ⟨fun h => (nomatch h), fun ⟨⟨h, _⟩, _⟩ => (nomatch (h rfl).1)⟩
        | false =>
          rw [if_neg Bool.false_ne_true, ih (r :: seen)]
          simp only [sharesDest_cons_eq_false]
          -- left: a later `x` is (free, not sharing with `r`, not sharing with `seen`); right: the first and the third
          -- under the `∀`, the second at the head of the `Pairwise`; `r` itself is free and shares with nobody in `seen`
          exact ⟨fun ⟨a, p⟩ => ⟨⟨fun _ => ⟨trivial, trivial⟩, fun x hx hk => ⟨(a x hx hk).1, (a x hx hk).2.2⟩⟩,
              fun x hx _ hk => (a x hx hk).2.1, p⟩,
            fun ⟨⟨_, a⟩, b, p⟩ => ⟨fun x hx hk => ⟨(a x hx hk).1, b x hx trivial hk, (a x hx hk).2⟩, p⟩⟩

theorem preflight_some {t : Tree} : ∀ (rs seen : List Ren) {o : Outcome},
    preflight t seen rs = some o → o = .sharedDest ∨ o = .destExists := by
  intro rs
  induction rs with
  | nil => intro seen o h; cases h
  | cons r rs ih =>
    intro seen o h
    rw [preflight] at h
    by_cases h1 : skipRen r = true
    · rw [if_pos h1] at h; exact ih _ h
    · rw [if_neg h1] at h
      by_cases h2 : sharesDest seen r = true
      · rw [if_pos h2] at h; exact Or.inl (Option.some.inj h).symm
      · rw [if_neg h2] at h
        by_cases h3 : (lookup t r.newPath).isSome = true
        · rw [if_pos h3] at h; exact Or.inr (Option.some.inj h).symm
        · rw [if_neg h3] at h; exact ih _ h

theorem preflightOk_of_none {t : Tree} (rs seen : List Ren) (h : preflight t seen rs = none) :
    preflightOk t rs = true := by
  refine List.all_eq_true.2 fun r hr => ?_
  change (skipRen r || (lookup t r.newPath).isNone) = true
  cases hs : skipRen r with
  | true => rfl
  | false => rw [← Option.not_isSome, (((preflight_eq_none_iff rs seen).1 h).1 r hr hs).1]; rfl

theorem preflight_nil_eq_none_iff {t : Tree} {rs : List Ren} : preflight t [] rs = none ↔
    (∀ r ∈ rs, skipRen r = false → lookup t r.newPath = none) ∧
    (ExecFlags.sharedDestRefused = true → ∀ a ∈ rs, ∀ b ∈ rs, skipRen a = false → skipRen b = false →
      a.newPath = b.newPath → a.path = b.path) := by
  rw [preflight_eq_none_iff]
  refine and_congr (forall₃_congr fun r _ _ => ?_) ⟨fun h hf a ha b hb ha' hb' => ?_, fun h => ?_⟩
  · rw [Option.isSome_eq_false_iff, Option.isNone_iff_eq_none]
    exact and_iff_left (sharesDest_eq_false.2 fun _ _ hs => (nomatch hs))
  · exact List.Pairwise.forall_of_forall_of_flip (fun _ _ _ _ _ _ => rfl) h
      (h.imp fun h' hb ha hf he => (h' ha hb hf he.symm).symm) ha hb ha' hb' hf
  · exact List.pairwise_of_forall_mem_list fun a ha b hb ha' hb' hf => h hf a ha b hb ha' hb'

theorem skipRen_of_eq {r : Ren} (h : r.newPath = r.path) : skipRen r = true := by
  rw [skipRen, h, beq_self_eq_true, Bool.or_true]

theorem eq_of_skipRen {r : Ren} (hne : r.newPath ≠ []) (h : skipRen r = true) : r.newPath = r.path := by
  rw [skipRen, List.isEmpty_eq_false_iff.2 hne, Bool.false_or] at h
  exact beq_iff_eq.1 h

/-- a key at a destination would not be fresh -/
theorem preflight_of_guards {t : Tree} {rs : List Ren} (hlo : LastOnly rs) (h3 : GTreeWF t)
    (h5 : GDestFree t rs) : preflight t [] rs = none :=
  preflight_nil_eq_none_iff.2 ⟨fun r hr hs => Option.eq_none_iff_forall_ne_some.2 fun _ hl =>
      Bool.eq_false_iff.1 hs (skipRen_of_eq (fresh_keys h3 hlo h5 _ (mem_of_lookup hl) r hr (pre_refl _))),
    fun _ a ha b hb _ _ he => h5.distinctDests hlo a ha b hb he⟩

theorem eq_of_dropLast_getLast {a b : Path} (hb : b ≠ []) (h1 : a.dropLast = b.dropLast)
    (h2 : a.getLast? = b.getLast?) : a = b := by
  have ha : a ≠ [] := fun h => hb (List.getLast?_eq_none_iff.1 (h2 ▸ h ▸ rfl))
  rw [List.getLast?_eq_some_getLast ha, List.getLast?_eq_some_getLast hb] at h2
  rw [← List.dropLast_concat_getLast ha, ← List.dropLast_concat_getLast hb, h1, Option.some.inj h2]

def SiblingDestsDistinct (rs : List Ren) : Prop :=
  ∀ r ∈ rs, ∀ r' ∈ rs, r'.path ≠ r.path → r'.path.dropLast = r.path.dropLast →
    r'.newPath.getLast? ≠ r.newPath.getLast?

theorem destFree_of_preflight {t : Tree} {rs : List Ren} (hlo : LastOnly rs)
    (hpf : preflightOk t rs = true) (h2 : SiblingDestsDistinct rs) : GDestFree t rs := by
  refine fun r hr => ⟨fun e he hne hdl hlast => ?_, h2 r hr⟩
  obtain ⟨_, h2', h3⟩ := hlo r hr
  have hk : e.1 = r.newPath := eq_of_dropLast_getLast h2' (hdl.trans h3.symm) hlast
  have hr' : (skipRen r || (lookup t r.newPath).isNone) = true := List.all_eq_true.1 hpf r hr
  obtain ⟨n, hn⟩ := lookup_some_of_mem t _ ⟨e, he, hk⟩
  rw [hn, Option.isNone_some, Bool.or_false] at hr'
  exact hne (hk.trans (eq_of_skipRen h2' hr'))

/-- needs the exists test as well: for a destination that is the source of an identity rename -/
theorem siblingDests_of_preflight_none {t : Tree} {rs : List Ren} (hflag : ExecFlags.sharedDestRefused = true)
    (hlo : LastOnly rs) (hk : GKindsOk t rs) (hp : preflight t [] rs = none) : SiblingDestsDistinct rs := by
  intro r hr r' hr' hne hdl hlast
  obtain ⟨hfree, hshare⟩ := preflight_nil_eq_none_iff.1 hp
  have heq : r'.newPath = r.newPath := eq_of_dropLast_getLast (hlo r hr).2.1
    ((hlo r' hr').2.2.trans (hdl.trans (hlo r hr).2.2.symm)) hlast
  have hocc : ∀ x ∈ rs, ∀ y ∈ rs, skipRen x = false → x.newPath ≠ y.path := fun x hx y hy hs he =>
    Option.isSome_iff_ne_none.1 (hk y hy).1 (he ▸ hfree x hx hs)
  cases hs : skipRen r with
  | true =>
    have hid := eq_of_skipRen (hlo r hr).2.1 hs
    cases hs' : skipRen r' with
    | true => exact hne ((eq_of_skipRen (hlo r' hr').2.1 hs').symm.trans (heq.trans hid))
    | false => exact hocc r' hr' r hr hs' (heq.trans hid)
  | false =>
    cases hs' : skipRen r' with
    | true => exact hocc r hr r' hr' hs (heq.symm.trans (eq_of_skipRen (hlo r' hr').2.1 hs'))
    | false => exact hne (hshare hflag r' hr' r hr hs' hs heq)

/-- with the shared-destination test in the code (repo commit 01297aa), the pre-flight loop of `apply_plan` is EXACTLY
    the guard `GDestFree` of the composition theorems -/
theorem destFree_iff_preflight_loop {t : Tree} {rs : List Ren} (hflag : ExecFlags.sharedDestRefused = true)
    (hlo : LastOnly rs) (h3 : GTreeWF t) (hk : GKindsOk t rs) :
    GDestFree t rs ↔ preflight t [] rs = none :=
  ⟨preflight_of_guards hlo h3, fun hp => destFree_of_preflight hlo (preflightOk_of_none _ _ hp)
    (siblingDests_of_preflight_none hflag hlo hk hp)⟩

theorem applyPlan_pass {t : Tree} {p : Plan} (h : preflight t [] p.rens = none) :
    applyPlan t p = applyCore t p := by
  rw [applyPlan, h]

theorem applyPlan_stop (t : Tree) (p : Plan) {o : Outcome} (h : preflight t [] p.rens = some o) :
    applyPlan t p = { outcome := o, tree := t } := by
  rw [applyPlan, h]

theorem applyPlan_refusal {t : Tree} {p : Plan} (h : preflight t [] p.rens ≠ none) :
    ((applyPlan t p).outcome = .destExists ∨ (applyPlan t p).outcome = .sharedDest) ∧ (applyPlan t p).tree = t := by
  obtain ⟨o, ho⟩ := Option.ne_none_iff_exists'.1 h
  rw [applyPlan_stop t p ho]
  exact ⟨(preflight_some _ _ ho).symm, rfl⟩

theorem applyPlan_refused (t : Tree) (p : Plan) (h : preflightOk t p.rens = false) :
    ((applyPlan t p).outcome = .destExists ∨ (applyPlan t p).outcome = .sharedDest) ∧ (applyPlan t p).tree = t :=
  applyPlan_refusal fun hp => Bool.eq_false_iff.1 h (preflightOk_of_none _ _ hp)

theorem backupPhase_cases (r : Result) (files : List Path) :
    backupPhase r files = r ∨ (backupPhase r files).outcome = .backupFailed ∨
      ∃ e, (backupPhase r files).outcome = .rollbackFailed e := by
  rw [backupPhase]
  by_cases h1 : (files.all fun f => readable r.tree (currentPath r.performed f)) = true
  · rw [if_pos h1]; exact Or.inl rfl
  · rw [if_neg h1]
    by_cases h2 : ExecFlags.historyEntryIsCommitPoint = true
    · rw [if_pos h2]
      cases hrb : rollback r.tree (rollbackList r.performed).reverse none with
      | mk t' oe => cases oe with
        | none => exact Or.inr (Or.inl rfl)
        | some e => exact Or.inr (Or.inr ⟨e, rfl⟩)
    · rw [if_neg h2]; exact Or.inr (Or.inl rfl)

theorem applyCore_eq {t t1 : Tree} {p : Plan} (hc : contentPhase p.hunks t (sortedFiles p.hunks) = (.ok, t1)) :
    applyCore t p = if (renamePhase t1 [] (sortRens p.rens)).outcome = .ok
      then backupPhase (renamePhase t1 [] (sortRens p.rens)) (sortedFiles p.hunks)
      else renamePhase t1 [] (sortRens p.rens) := by
  unfold applyCore
  rw [hc]
  dsimp only
  split
  · next h => rw [if_pos h]
  · next h => rw [if_neg h]

theorem applyCore_stop {t t1 : Tree} {p : Plan} {o : Outcome}
    (hc : contentPhase p.hunks t (sortedFiles p.hunks) = (o, t1)) (ho : o ≠ .ok) :
    applyCore t p = { outcome := o, tree := t1 } := by
  unfold applyCore
  rw [hc]
  split
  · next heq => exact absurd (Prod.mk.inj heq).1 ho
  · next heq => cases heq; rfl

theorem applyPlan_ok {t : Tree} {p : Plan} (hok : (applyPlan t p).outcome = .ok) :
    preflight t [] p.rens = none ∧ ∃ t1, contentPhase p.hunks t (sortedFiles p.hunks) = (.ok, t1) ∧
      applyPlan t p = renamePhase t1 [] (sortRens p.rens) := by
  cases hp : preflight t [] p.rens with
  | some o =>
    rw [applyPlan_stop t p hp] at hok
    rcases preflight_some _ _ hp with rfl | rfl <;> cases hok
  | none =>
    refine ⟨rfl, ?_⟩
    rw [applyPlan_pass hp] at hok ⊢
    cases hcp : contentPhase p.hunks t (sortedFiles p.hunks) with
    | mk o t1 =>
      by_cases ho : o = .ok
      · subst ho
        refine ⟨t1, rfl, ?_⟩
        rw [applyCore_eq hcp] at hok ⊢
        by_cases hr : (renamePhase t1 [] (sortRens p.rens)).outcome = .ok
        · rw [if_pos hr] at hok ⊢
          rcases backupPhase_cases (renamePhase t1 [] (sortRens p.rens)) (sortedFiles p.hunks) with h | h | ⟨e, h⟩
          · exact h
          · rw [hok] at h; cases h
          · rw [hok] at h; cases h
        · rw [if_neg hr] at hok
          exact absurd hok hr
      · rw [applyCore_stop hcp ho] at hok
        exact absurd hok ho

theorem renamePhase_after_content {t t1 : Tree} {p : Plan} (hlo : LastOnly p.rens) (h2 : GDistinctSources p.rens)
    (h3 : GTreeWF t) (h4 : GKindsOk t p.rens) (h5 : GDestFree t p.rens)
    (hc : contentPhase p.hunks t (sortedFiles p.hunks) = (.ok, t1)) :
    renamePhase t1 [] (sortRens p.rens) =
      { outcome := .ok, tree := moveAll p.rens t1,
        performed := (sortRens p.rens).map (fun r => (r.path, finalPath p.rens r.path)) } := by
  have hs := sameShape_contentPhase p.hunks (sortedFiles p.hunks) t
  rw [hc] at hs
  exact renamePhase_sortRens t1 p.rens hlo h2 (h3.sameShape hs) (h4.sameShape hs) (h5.sameShape hs)

/-- under the guards only STEP 4 (reading back edited files) can still fail.  (A STEP 4 failure rolls the renames back,
    repo commit 6667a82, so nothing is said about the tree in that case.) -/
theorem applyPlan_moves (t : Tree) (p : Plan) (hlo : LastOnly p.rens) (h2 : GDistinctSources p.rens)
    (h3 : GTreeWF t) (h4 : GKindsOk t p.rens) (h5 : GDestFree t p.rens)
    (hc : (contentPhase p.hunks t (sortedFiles p.hunks)).1 = .ok) :
    ((applyPlan t p).outcome = .ok ∧
      (applyPlan t p).tree = moveAll p.rens (contentPhase p.hunks t (sortedFiles p.hunks)).2) ∨
    (applyPlan t p).outcome = .backupFailed ∨ (∃ e, (applyPlan t p).outcome = .rollbackFailed e) := by
  have hcp : contentPhase p.hunks t (sortedFiles p.hunks) = (.ok, _) := Prod.ext hc rfl
  have hr := renamePhase_after_content hlo h2 h3 h4 h5 hcp
  rw [applyPlan_pass (preflight_of_guards hlo h3 h5), applyCore_eq hcp, hr, if_pos rfl]
  rcases backupPhase_cases _ (sortedFiles p.hunks) with h | h
  · rw [h]; exact Or.inl ⟨rfl, rfl⟩
  · exact Or.inr h

theorem applyPlan_moves_ok (t : Tree) (p : Plan) (hlo : LastOnly p.rens) (h2 : GDistinctSources p.rens)
    (h3 : GTreeWF t) (h4 : GKindsOk t p.rens) (h5 : GDestFree t p.rens)
    (hc : (contentPhase p.hunks t (sortedFiles p.hunks)).1 = .ok)
    (hread : (sortedFiles p.hunks).all (fun f =>
        readable (renamePhase (contentPhase p.hunks t (sortedFiles p.hunks)).2 [] (sortRens p.rens)).tree
          (currentPath (renamePhase (contentPhase p.hunks t (sortedFiles p.hunks)).2 [] (sortRens p.rens)).performed f))
        = true) :
    (applyPlan t p).outcome = .ok ∧
      (applyPlan t p).tree = moveAll p.rens (contentPhase p.hunks t (sortedFiles p.hunks)).2 := by
  have hcp : contentPhase p.hunks t (sortedFiles p.hunks) = (.ok, _) := Prod.ext hc rfl
  have hr := renamePhase_after_content hlo h2 h3 h4 h5 hcp
  rw [applyPlan_pass (preflight_of_guards hlo h3 h5), applyCore_eq hcp, if_pos (by rw [hr]), backupPhase,
    if_pos hread, hr]
  exact ⟨rfl, rfl⟩

theorem currentPath_eq_finalPath (L : List Ren) (hord : Ord L) (f : Path) :
    currentPath (perfOf L) f = finalPath L f := by
  unfold currentPath
  cases hf : (perfOf L).find? (fun pr => pr.1 == f) with
  | some pr =>
    obtain ⟨d, _, rfl⟩ := List.mem_map.1 (List.mem_of_find?_eq_some hf)
    have hp := List.find?_some hf
    exact congrArg _ (beq_iff_eq.1 hp)
  | none => exact rebase_perfOf hord f

theorem currentPath_sortRens (rs : List Ren) (hd : Distinct rs) (hfl : FileLeaf rs) (f : Path) :
    currentPath ((sortRens rs).map (fun r => (r.path, finalPath rs r.path))) f = finalPath rs f := by
  have := currentPath_eq_finalPath (sortRens rs) (sortRens_ord rs hd hfl) f
  simp only [perfOf, finalPath_sortRens rs hd] at this
  exact this

end RenamePhase
