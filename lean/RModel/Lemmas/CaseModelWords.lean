import RModel.Lemmas.CaseModel
/-
  ASCII case conversion on words, capitalised words, neutrality (the guard under which no word triggers acronym
  handling), and the tokenizer on hump-joined words.
-/
open B

namespace CaseModel

theorem toNat_sub32 {c : UInt8} (h : 32 ≤ c.toNat) : (c - 32).toNat = c.toNat - 32 := by
  rw [UInt8.toNat_sub]
  have h32 : (32 : UInt8).toNat = 32 := rfl
  have := c.toNat_lt
  rw [h32]; omega

theorem toNat_add32 {c : UInt8} (h : c.toNat < 224) : (c + 32).toNat = c.toNat + 32 := by
  rw [UInt8.toNat_add]
  have h32 : (32 : UInt8).toNat = 32 := rfl
  rw [h32]; omega

theorem toUpper_of_lower {c : UInt8} (h : isLower c = true) : isUpper (toUpper c) = true := by
  have h32 : 32 ≤ c.toNat := by cc
  simp only [toUpper, h, ↓reduceIte, isUpper, toNat_sub32 h32]
  cc

theorem toLower_of_upper {c : UInt8} (h : isUpper c = true) : isLower (toLower c) = true := by
  have h32 : c.toNat < 224 := by cc
  simp only [toLower, h, ↓reduceIte, isLower, toNat_add32 h32]
  cc

theorem toLower_id {c : UInt8} (h : isUpper c = false) : toLower c = c := by
  simp only [toLower, h, Bool.false_eq_true, ↓reduceIte]

theorem toUpper_id {c : UInt8} (h : isLower c = false) : toUpper c = c := by
  simp only [toUpper, h, Bool.false_eq_true, ↓reduceIte]

theorem isUpper_toUpper_alpha {d : UInt8} (hd : isAlpha d = true) : isUpper (toUpper d) = true := by
  cases hl : isLower d with
  | true => exact toUpper_of_lower hl
  | false => rw [toUpper_id hl]; simpa [isAlpha, hl] using hd

theorem isUpper_toLower (d : UInt8) : isUpper (toLower d) = false := by
  cases hu : isUpper d with
  | true => exact lower_not_upper (toLower_of_upper hu)
  | false => rw [toLower_id hu]; exact hu

theorem toLower_toUpper_of_lower {c : UInt8} (h : isLower c = true) : toLower (toUpper c) = c := by
  have hu := toUpper_of_lower h
  rw [toLower, if_pos hu, toUpper, if_pos h, UInt8.sub_add_cancel]

theorem toUpper_toUpper_of_lower {c : UInt8} (h : isLower c = true) : toUpper (toUpper c) = toUpper c :=
  toUpper_id (upper_not_lower (toUpper_of_lower h))

theorem lower_id {w : Bytes} (h : ∀ c ∈ w, isUpper c = false) : lower w = w := by
  rw [lower, List.map_congr_left (fun c hc => toLower_id (h c hc)), List.map_id']

theorem upper_id {w : Bytes} (h : ∀ c ∈ w, isLower c = false) : upper w = w := by
  rw [upper, List.map_congr_left (fun c hc => toUpper_id (h c hc)), List.map_id']

theorem lower_of_lower {w : Bytes} (h : ∀ c ∈ w, isLower c = true) : lower w = w :=
  lower_id (fun c hc => lower_not_upper (h c hc))

theorem upper_all_upper {w : Bytes} (h : ∀ c ∈ w, isLower c = true) : ∀ c ∈ upper w, isUpper c = true := by
  intro c hc
  obtain ⟨x, hx, rfl⟩ := List.mem_map.mp hc
  exact toUpper_of_lower (h x hx)

theorem lower_upper_of_lower {w : Bytes} (h : ∀ c ∈ w, isLower c = true) : lower (upper w) = w := by
  rw [lower, upper, List.map_map]
  exact (List.map_congr_left fun c hc => toLower_toUpper_of_lower (h c hc)).trans (List.map_id' w)

theorem upper_upper_of_lower {w : Bytes} (h : ∀ c ∈ w, isLower c = true) : upper (upper w) = upper w :=
  upper_id (fun c hc => upper_not_lower (upper_all_upper h c hc))

theorem upper_length (w : Bytes) : (upper w).length = w.length := by simp only [upper, List.length_map]
theorem lower_length (w : Bytes) : (lower w).length = w.length := by simp only [lower, List.length_map]

theorem upper_ne_nil {w : Bytes} (h : w ≠ []) : upper w ≠ [] :=
  fun hu => h (List.map_eq_nil_iff.mp hu)

def LowerWord (w : Bytes) : Prop := w ≠ [] ∧ ∀ c ∈ w, isLower c = true
def Word (w : Bytes) : Prop := 2 ≤ w.length ∧ ∀ c ∈ w, isLower c = true

instance (w : Bytes) : Decidable (LowerWord w) := by unfold LowerWord; infer_instance
instance (w : Bytes) : Decidable (Word w) := by unfold Word; infer_instance

theorem Word.lowerWord {w : Bytes} (h : Word w) : LowerWord w :=
  ⟨by intro h0; rw [h0] at h; exact absurd h.1 (by decide), h.2⟩

theorem capitalizeFirst_lower_cons {c : UInt8} {cs : Bytes} (h : ∀ x ∈ c :: cs, isLower x = true) :
    capitalizeFirst (c :: cs) = toUpper c :: cs := by
  have hc : isLower c = true := h c (List.mem_cons_self ..)
  have hcs : lower cs = cs := lower_of_lower (fun x hx => h x (List.mem_cons_of_mem _ hx))
  simp only [capitalizeFirst, List.all_cons, lower_not_upper hc, Bool.false_and, Bool.false_eq_true, ↓reduceIte,
    hcs]

theorem isCap_capitalizeFirst {w : Bytes} (h : Word w) : IsCap (capitalizeFirst w) := by
  obtain ⟨hl, hw⟩ := h
  match w, hl, hw with
  | c :: l0 :: l', _, hw =>
    rw [capitalizeFirst_lower_cons hw]
    exact ⟨toUpper c, l0, l', rfl, toUpper_of_lower (hw c (List.mem_cons_self ..)),
      fun x hx => hw x (List.mem_cons_of_mem _ hx)⟩

theorem lower_capitalizeFirst {w : Bytes} (h : ∀ c ∈ w, isLower c = true) : lower (capitalizeFirst w) = w := by
  cases w with
  | nil => rfl
  | cons c cs =>
    rw [capitalizeFirst_lower_cons h, lower, List.map_cons, toLower_toUpper_of_lower (h c (List.mem_cons_self ..))]
    exact congrArg _ (lower_of_lower fun x hx => h x (List.mem_cons_of_mem _ hx))

theorem upper_capitalizeFirst {w : Bytes} (h : ∀ c ∈ w, isLower c = true) :
    upper (capitalizeFirst w) = upper w := by
  cases w with
  | nil => rfl
  | cons c cs =>
    rw [capitalizeFirst_lower_cons h]
    simp only [upper, List.map_cons]
    rw [toUpper_toUpper_of_lower (h c (List.mem_cons_self ..))]

theorem keepAcr_of_has_lower {A : Acr} {t : Bytes} {x : UInt8} (hx : x ∈ t) (hl : isLower x = true) :
    keepAcr A t = false := by
  simp only [keepAcr, List.all_false_of_mem hx (lower_not_upper hl), Bool.false_and]

theorem capOrKeep_lower {A : Acr} {w : Bytes} (h : LowerWord w) : capOrKeep A w = capitalizeFirst w := by
  obtain ⟨c, cs, rfl⟩ := List.exists_cons_of_ne_nil h.1
  simp only [capOrKeep, keepAcr_of_has_lower (List.mem_cons_self ..) (h.2 c (List.mem_cons_self ..)),
    Bool.false_eq_true, ↓reduceIte]

theorem capitalizeFirst_cap {r : Bytes} (h : IsCap r) : capitalizeFirst r = r := by
  obtain ⟨u, l0, l', rfl, hu, hl⟩ := h
  have h1 : (u :: l0 :: l').all isUpper = false :=
    List.all_false_of_mem (x := l0) (by simp) (lower_not_upper (hl l0 (List.mem_cons_self ..)))
  simp only [capitalizeFirst, h1, Bool.false_and, Bool.false_eq_true, ↓reduceIte, toUpper_id (upper_not_lower hu),
    lower_of_lower hl]

theorem capOrKeep_cap {A : Acr} {r : Bytes} (h : IsCap r) : capOrKeep A r = r := by
  simp only [capOrKeep, capitalizeFirst_cap h, ite_self]

theorem lower_cap {r : Bytes} (h : IsCap r) : ∀ c ∈ (lower r), isLower c = true := by
  obtain ⟨u, l0, l', rfl, hu, hl⟩ := h
  intro c hc
  rcases List.mem_cons.mp hc with rfl | hc
  · exact toLower_of_upper hu
  · have hc : c ∈ lower (l0 :: l') := hc
    rw [lower_of_lower hl] at hc
    exact hl c hc

/-- N1: on the upper-cased word the trie does not find an acronym that is directly followed by another one -/
def NeutralUpper (A : Acr) (w : Bytes) : Prop :=
  match A.flm (upper w) with
  | some n => n = w.length ∨ A.flm ((upper w).drop n) = none
  | none => True

/-- N2: on the capitalised word the trie does not find a one-letter acronym -/
def NeutralCap (A : Acr) (w : Bytes) : Prop := A.flm (capitalizeFirst w) ≠ some 1

def NeutralWord (A : Acr) (w : Bytes) : Prop := NeutralUpper A w ∧ NeutralCap A w

instance (A : Acr) (w : Bytes) : Decidable (NeutralUpper A w) := by
  unfold NeutralUpper; split <;> infer_instance
instance (A : Acr) (w : Bytes) : Decidable (NeutralCap A w) := by unfold NeutralCap; infer_instance
instance (A : Acr) (w : Bytes) : Decidable (NeutralWord A w) := by unfold NeutralWord; infer_instance

theorem NeutralUpper.noAcrPair {A : Acr} {w : Bytes} (h : NeutralUpper A w) : NoAcrPair A (upper w) := by
  intro n hn
  simp only [NeutralUpper, hn] at h
  rw [upper_length]; exact h

variable {A : Acr}

theorem shouldSplit_lower_upper {b p : UInt8} (hp : isLower p = true) (hb : isUpper b = true) (cur tail : Bytes) :
    shouldSplit A p cur b tail = true := by
  simp only [shouldSplit, lower_not_upper hp, hp, hb, Bool.and_false, Bool.false_and, Bool.false_eq_true,
    ↓reduceIte, Bool.and_self]

theorem concat_cons (c : Bytes) (cs : List Bytes) : concat (c :: cs) = c ++ concat cs := rfl
@[simp] theorem concat_nil : concat ([] : List Bytes) = [] := rfl

theorem tok_caps : ∀ (cs : List Bytes) (cur : Bytes) (p : UInt8) (acc : List Bytes), cur ≠ [] →
    isLower p = true → (∀ c ∈ cs, IsCap c) → tok A (some p) cur 0 (concat cs) acc = acc ++ cur :: cs
  | [], cur, p, acc, hcur, _, _ => by
    simp only [concat_nil, tok_nil, flush_ne_nil hcur]
  | c :: cs, cur, p, acc, hcur, hp, h => by
    obtain ⟨u, l0, l', rfl, hu, hl⟩ := h c (List.mem_cons_self ..)
    rw [concat_cons, List.cons_append,
      tok_split hcur (upper_not_delim hu) (upper_alnum hu) _ _ (shouldSplit_lower_upper hp hu ..),
      tok_lower_run _ _ (l0 :: l') [u] u (by simp) hl]
    obtain ⟨q, hq, hql⟩ := prevAfter_all isLower (l0 :: l') (some u) (by simp) hl
    rw [hq, tok_caps cs _ q _ (by simp) hql (fun x hx => h x (List.mem_cons_of_mem _ hx))]
    simp only [List.append_assoc, List.cons_append, List.nil_append]

theorem prevAfter_cap {r : Bytes} (h : IsCap r) (prev : Option UInt8) :
    ∃ q, prevAfter prev r = some q ∧ isLower q = true := by
  obtain ⟨u, l0, l', rfl, _, hl⟩ := h
  exact prevAfter_all isLower (l0 :: l') (some u) (by simp) hl

/-- PascalCase: only the first word is looked up in the trie -/
theorem parse_pascal (hA : AcrOk A) (hS : AcrStable A) {c : Bytes} {cs : List Bytes} (hc : IsCap c)
    (hN : A.flm c ≠ some 1) (hcs : ∀ x ∈ cs, IsCap x) : parse A (concat (c :: cs)) = c :: cs := by
  obtain ⟨q, hq, hql⟩ := prevAfter_cap hc none
  rw [parse, concat_cons, tok_cap_start hA hS hc hN, hq, tok_caps cs c q [] (isCap_ne_nil hc) hql hcs]
  rfl

theorem headIs_concat_caps : ∀ {cs : List Bytes}, (∀ x ∈ cs, IsCap x) →
    headIs (fun c => isLower c || isDigit c) (concat cs) = false
  | [], _ => rfl
  | c :: cs, h => by
    obtain ⟨u, l0, l', rfl, hu, _⟩ := h c (List.mem_cons_self ..)
    show (isLower u || isDigit u) = false
    rw [upper_not_lower hu, upper_not_digit hu]; rfl

/-- camelCase: the lower-case first word may be taken by the trie, in which case the second word starts a token
    and is looked up as well -/
theorem parse_camel (hA : AcrOk A) (hS : AcrStable A) {w : Bytes} {cs : List Bytes} (hw : LowerWord w)
    (hcs : ∀ x ∈ cs, IsCap x) (hN : ∀ x ∈ cs, A.flm x ≠ some 1) : parse A (w ++ concat cs) = w :: cs := by
  obtain ⟨q, hq, hql⟩ := prevAfter_all isLower w none hw.1 hw.2
  rw [parse]
  rcases startOK_lower hA hw.1 hw.2 (headIs_concat_caps hcs) none [] with h | h
  · rw [h, hq, tok_caps cs w q [] hw.1 hql hcs]; rfl
  · rw [h, hq]
    cases cs with
    | nil => rfl
    | cons c cs =>
      have hc := hcs c (List.mem_cons_self ..)
      obtain ⟨q', hq', hql'⟩ := prevAfter_cap hc (some q)
      rw [concat_cons, tok_cap_start hA hS hc (hN c (List.mem_cons_self ..)), hq',
        tok_caps cs c q' _ (isCap_ne_nil hc) hql' (fun x hx => hcs x (List.mem_cons_of_mem _ hx))]
      rfl

end CaseModel
