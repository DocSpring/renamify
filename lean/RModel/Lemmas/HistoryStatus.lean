import RModel.Lemmas.History
/-
  The status invariant behind `C10.refines_spec_partial`: what the implementation's eligibility scans
  (`revert_of == id` exists / no `redo-<id>-…` exists) say about the abstract applied / undone flag.
  With "redo only once" the entries of one operation form a chain  X, redo-X-…, redo-redo-X-…-…, …  in which
  every element but the last has been reverted and redone; the operation is applied iff the last one has no revert.
-/

namespace History
open HistorySpec

section
variable {Tree H : Type} [DecidableEq H]

theorem find_some (s : Spec Tree H) (r : EId H) (o : Op Tree H) (h : find s r = some o) : o ∈ s ∧ o.root = r :=
  ⟨List.mem_of_find?_eq_some h, by simpa using List.find?_some h⟩

theorem find_eq_none (s : Spec Tree H) (r : EId H) : find s r = none ↔ ∀ o ∈ s, o.root ≠ r := by
  simp only [find, List.find?_eq_none, beq_iff_eq]

theorem find_push (s : Spec Tree H) (r x : EId H) (pre post : Tree) :
    find (push s r pre post) x =
      (find s x).or (if r = x then some { root := r, applied := true, pre := pre, post := post } else none) := by
  simp only [find, push, List.find?_append, List.find?_singleton, beq_iff_eq]

theorem find_push_ne (s : Spec Tree H) (r x : EId H) (pre post : Tree) (h : x ≠ r) :
    find (push s r pre post) x = find s x := by
  rw [find_push, if_neg (Ne.symm h), Option.or_none]

theorem find_push_new (s : Spec Tree H) (r : EId H) (pre post : Tree) (h : find s r = none) :
    find (push s r pre post) r = some { root := r, applied := true, pre := pre, post := post } := by
  rw [find_push, h, if_pos rfl]; rfl

theorem find_setApplied (s : Spec Tree H) (r x : EId H) (b : Bool) :
    find (setApplied s r b) x = (find s x).map fun o => if o.root == r then { o with applied := b } else o := by
  unfold find setApplied
  rw [List.find?_map]
  congr 2
  funext o
  dsimp only [Function.comp]
  split <;> rfl

theorem find_setApplied_inv {s : Spec Tree H} {r x : EId H} {b : Bool} {o' : Op Tree H}
    (h : find (setApplied s r b) x = some o') :
    ∃ o, find s x = some o ∧ o'.applied = (if x = r then b else o.applied) := by
  rw [find_setApplied, Option.map_eq_some_iff] at h
  obtain ⟨o, ho, rfl⟩ := h
  refine ⟨o, ho, ?_⟩
  rw [← (find_some s x o ho).2]
  by_cases hr : o.root = r <;> simp [hr]

structure Status (es : List (Entry H)) (s : Spec Tree H) : Prop where
  unrevApplied : ∀ e ∈ es, e.revertOf = none → hasRevertOf es e.id = false →
    ∀ o, find s e.id.root = some o → o.applied = true
  revUndone : ∀ e ∈ es, e.revertOf = none → hasRevertOf es e.id = true → hasRedoOf es e.id = false →
    ∀ o, find s e.id.root = some o → o.applied = false
  /-- per operation at most one entry has not been redone (the last of its chain) -/
  oneOpen : ∀ e1 ∈ es, ∀ e2 ∈ es, e1.revertOf = none → e2.revertOf = none → e1.id.root = e2.id.root →
    hasRedoOf es e1.id = false → hasRedoOf es e2.id = false → e1.id = e2.id
  redoRev : ∀ i, hasRedoOf es i = true → hasRevertOf es i = true
  rootPresent : ∀ e ∈ es, e.revertOf = none → hasId es e.id.root = true
  revTarget : ∀ e ∈ es, ∀ j, e.revertOf = some j → hasId es j = true

theorem status_init : Status ([] : List (Entry H)) ([] : Spec Tree H) where
  unrevApplied := by intro e he; simp at he
  revUndone := by intro e he; simp at he
  oneOpen := by intro e he; simp at he
  redoRev := by intro i h; simp [hasRedoOf] at h
  rootPresent := by intro e he; simp at he
  revTarget := by intro e he; simp at he

theorem Status.no_revert_of_absent {es : List (Entry H)} {s : Spec Tree H} (st : Status es s) (i : EId H)
    (h : hasId es i = false) : hasRevertOf es i = false :=
  Bool.eq_false_iff.2 fun hh => by
    obtain ⟨e, he, hr⟩ := (hasRevertOf_iff es i).1 hh
    rw [st.revTarget e he i hr] at h; cases h

theorem Status.no_redo_of_absent {es : List (Entry H)} {s : Spec Tree H} (st : Status es s) (i : EId H)
    (h : hasId es i = false) : hasRedoOf es i = false :=
  Bool.eq_false_iff.2 fun hh => by
    have h1 := st.redoRev i hh
    rw [st.no_revert_of_absent i h] at h1; cases h1

variable {es : List (Entry H)} {s : Spec Tree H}

/-- The two flag clauses are one: the LAST entry of a chain decides the flag of its operation, applied iff that entry
    has no revert (an entry without a revert has no redo, by `redoRev`). -/
theorem Status.applied_eq (st : Status es s) {e : Entry H} (he : e ∈ es) (hn : e.revertOf = none)
    (hd : hasRedoOf es e.id = false) {o : Op Tree H} (ho : find s e.id.root = some o) :
    o.applied = !hasRevertOf es e.id := by
  cases hr : hasRevertOf es e.id with
  | false => exact st.unrevApplied e he hn hr o ho
  | true => exact st.revUndone e he hn hr hd o ho

/-- Appending `n` keeps the status invariant if the last entry of every chain still decides the flag of its operation
    and `n` is a legal successor (`hopen`: if it is not a revert, it takes over every chain it belongs to). -/
theorem status_snoc (st : Status es s) (n : Entry H) (s' : Spec Tree H)
    (hflag : ∀ e ∈ es ++ [n], e.revertOf = none → hasRedoOf (es ++ [n]) e.id = false →
      ∀ o, find s' e.id.root = some o → o.applied = !hasRevertOf (es ++ [n]) e.id)
    (hopen : n.revertOf = none → ∀ e ∈ es, e.revertOf = none → e.id.root = n.id.root → hasRedoOf (es ++ [n]) e.id = true)
    (hredo : ∀ j, n.revertOf = none → isRedoOf j n.id = true → hasRevertOf es j = true)
    (hroot : n.revertOf = none → hasId (es ++ [n]) n.id.root = true)
    (htarget : ∀ j, n.revertOf = some j → hasId es j = true) : Status (es ++ [n]) s' := by
  have hmono : ∀ j, hasRedoOf (es ++ [n]) j = false → hasRedoOf es j = false := fun j h => by
    rw [hasRedoOf_append, Bool.or_eq_false_iff] at h; exact h.1
  have hredoRev : ∀ i, hasRedoOf (es ++ [n]) i = true → hasRevertOf (es ++ [n]) i = true := fun i hi => by
    rw [hasRedoOf_append, Bool.or_eq_true, Bool.and_eq_true, Option.isNone_iff_eq_none] at hi
    rw [hasRevertOf_append, Bool.or_eq_true]
    exact Or.inl (hi.elim (st.redoRev i) fun h => hredo i h.1 h.2)
  refine ⟨fun e he hn hr o ho => ?_, fun e he hn hr hd o ho => ?_, ?_, hredoRev, ?_, ?_⟩
  · have hd : hasRedoOf (es ++ [n]) e.id = false := Bool.eq_false_iff.2 fun h => by rw [hredoRev _ h] at hr; cases hr
    rw [hflag e he hn hd o ho, hr]; rfl
  · rw [hflag e he hn hd o ho, hr]; rfl
  · exact List.forall_mem_snoc
      (fun e1 he1 => List.forall_mem_snoc
        (fun e2 he2 hn1 hn2 hrt hd1 hd2 => st.oneOpen e1 he1 e2 he2 hn1 hn2 hrt (hmono _ hd1) (hmono _ hd2))
        (fun hn1 hn2 hrt hd1 _ => by rw [hopen hn2 e1 he1 hn1 hrt] at hd1; cases hd1))
      (List.forall_mem_snoc
        (fun e2 he2 hn1 hn2 hrt _ hd2 => by rw [hopen hn1 e2 he2 hn2 hrt.symm] at hd2; cases hd2)
        (fun _ _ _ _ _ => rfl))
  · exact List.forall_mem_snoc (fun e he hn => hasId_append_left (st.rootPresent e he hn)) hroot
  · exact List.forall_mem_snoc (fun e he j hj => hasId_append_left (st.revTarget e he j hj))
      (fun j hj => hasId_append_left (htarget j hj))

theorem status_rename (st : Status es s) (h : H) (pre post : Tree)
    (hfresh : hasId es (.plan h) = false) (hnew : ∀ o ∈ s, o.root ≠ .plan h) :
    Status (es ++ [{ id := .plan h, revertOf := none }]) (push s (.plan h) pre post) := by
  have hrv : ∀ j, hasRevertOf (es ++ [({ id := .plan h, revertOf := none } : Entry H)]) j = hasRevertOf es j := by
    intro j; rw [hasRevertOf_append]; simp
  have hrd : ∀ j, hasRedoOf (es ++ [({ id := .plan h, revertOf := none } : Entry H)]) j = hasRedoOf es j := by
    intro j; rw [hasRedoOf_append]; simp [isRedoOf]
  -- the new operation shares its root with no entry
  have hroot : ∀ e ∈ es, e.revertOf = none → e.id.root ≠ .plan h := fun e he hn hh => by
    have := st.rootPresent e he hn
    rw [hh, hfresh] at this; cases this
  refine status_snoc st _ _ (List.forall_mem_snoc (fun e he hn hd o ho => ?_) (fun _ _ o ho => ?_))
    (fun _ e he hn hrt => absurd hrt (hroot e he hn)) nofun (fun _ => ?_) nofun
  · rw [hrd] at hd
    rw [find_push_ne s _ _ _ _ (hroot e he hn)] at ho
    rw [hrv]; exact st.applied_eq he hn hd ho
  · cases (find_push_new s (.plan h) pre post ((find_eq_none s _).2 hnew)).symm.trans ho
    rw [hrv, st.no_revert_of_absent _ hfresh]; rfl
  · rw [hasId_append]; simp [root_plan]

theorem status_undo (st : Status es s) (e : Entry H) (c : Nat) (he : e ∈ es) (hn : e.revertOf = none)
    (hnorev : hasRevertOf es e.id = false) :
    Status (es ++ [{ id := .revert e.id c, revertOf := some e.id }]) (setApplied s e.id.root false) := by
  have hrv : ∀ j, hasRevertOf (es ++ [({ id := .revert e.id c, revertOf := some e.id } : Entry H)]) j
      = (hasRevertOf es j || (e.id == j)) := by
    intro j; rw [hasRevertOf_append]; simp
  have hrd : ∀ j, hasRedoOf (es ++ [({ id := .revert e.id c, revertOf := some e.id } : Entry H)]) j = hasRedoOf es j := by
    intro j; rw [hasRedoOf_append]; simp
  have hnoredo : hasRedoOf es e.id = false := Bool.eq_false_iff.2 fun h => by
    rw [st.redoRev _ h] at hnorev; cases hnorev
  refine status_snoc st _ _ (List.forall_mem_snoc (fun e' he' hn' hd' o' ho' => ?_) nofun) nofun nofun nofun
    (fun j hj => ?_)
  · rw [hrd] at hd'
    obtain ⟨o, ho, happ⟩ := find_setApplied_inv ho'
    rw [happ, hrv]
    by_cases hroot : e'.id.root = e.id.root
    · -- `e'` is the last entry of the chain of `e`: it is `e`, which now has a revert
      rw [if_pos hroot, st.oneOpen e' he' e he hn' hn hroot hd' hnoredo]; simp
    · have hne : e.id ≠ e'.id := fun hh => hroot (by rw [hh])
      rw [if_neg hroot, beq_false_of_ne hne, Bool.or_false]
      exact st.applied_eq he' hn' hd' ho
  · cases hj
    exact (hasId_iff _ _).2 ⟨e, he, rfl⟩

theorem status_redo (st : Status es s) (e : Entry H) (c : Nat) (he : e ∈ es) (hn : e.revertOf = none)
    (hrev : hasRevertOf es e.id = true) (hnoredo : hasRedoOf es e.id = false) (hfresh : hasId es (.redo e.id c) = false) :
    Status (es ++ [{ id := .redo e.id c, revertOf := none }]) (setApplied s e.id.root true) := by
  have hrv : ∀ j, hasRevertOf (es ++ [({ id := .redo e.id c, revertOf := none } : Entry H)]) j = hasRevertOf es j := by
    intro j; rw [hasRevertOf_append]; simp
  have hrd : ∀ j, hasRedoOf (es ++ [({ id := .redo e.id c, revertOf := none } : Entry H)]) j
      = (hasRedoOf es j || (e.id == j)) := by
    intro j; rw [hasRedoOf_append]; simp [isRedoOf]
  -- an old entry of the chain of `e` that has not been redone is `e`, and `e` has been redone now
  have hopen : ∀ e' ∈ es, e'.revertOf = none → e'.id.root = e.id.root →
      hasRedoOf (es ++ [({ id := .redo e.id c, revertOf := none } : Entry H)]) e'.id = true := fun e' he' hn' hroot => by
    rw [hrd]
    cases hd : hasRedoOf es e'.id with
    | true => rfl
    | false => rw [st.oneOpen e' he' e he hn' hn hroot hd hnoredo]; simp
  refine status_snoc st _ _ (List.forall_mem_snoc (fun e' he' hn' hd' o' ho' => ?_) (fun _ _ o' ho' => ?_))
    (fun _ => hopen) (fun j _ hj => ?_) (fun _ => hasId_append_left (st.rootPresent e he hn)) nofun
  · obtain ⟨o, ho, happ⟩ := find_setApplied_inv ho'
    have hroot : e'.id.root ≠ e.id.root := fun hroot => by rw [hopen e' he' hn' hroot] at hd'; cases hd'
    rw [happ, if_neg hroot, hrv]
    exact st.applied_eq he' hn' (by rw [hrd, Bool.or_eq_false_iff] at hd'; exact hd'.1) ho
  · obtain ⟨o, _, happ⟩ := find_setApplied_inv ho'
    rw [happ, if_pos (root_redo e.id c), hrv, st.no_revert_of_absent _ hfresh]; rfl
  · rw [← eq_of_beq (show (e.id == j) = true from hj)]; exact hrev

end
end History
