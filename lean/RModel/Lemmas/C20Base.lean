import RModel.Base.Bytes
import RModel.Model.CliLit
import RModel.Model.Wrappers
import RModel.Model.WrappersKnown
import RModel.Gen.CliGrammar
import RModel.Gen.Wrappers
import RModel.Gen.WrappersVerdict
/- C20: the definitions shared by the property file and by the kernel-evaluated table (`Lemmas/C20Table.lean`). -/
namespace C20
open Wrap Cli

abbrev G : Grammar := Gen.CliGrammar.grammar

/-- slugs of the findings in force (generated verdict) -/
abbrev live : List Str := Gen.WrappersVerdict.liveSlugs

def inForce (slug : Str) : Bool := anyIs live slug

/-- the guard: the valuation falls under a finding that is in force -/
def guard (b : Builder) (v : Valuation) : Bool := usesBad live b v

/-- the kernel-evaluated part of the enumerated space -/
def space (b : Builder) : List Valuation := core live b

/-- one row of the decision table: outside the guard the command line works, inside it does not -/
def rowOk (b : Builder) (v : Valuation) : Bool := guard b v != okFor G b v

/-- the table restricted to some of the builders -/
def tableOn (bs : List Builder) : Bool := bs.all (fun b => (space b).all (rowOk b))

-- the three parts the builder list is cut into (any cut is sound: `take n ++ drop n`)
def cutA : Nat := 3
def cutB : Nat := 8

end C20
