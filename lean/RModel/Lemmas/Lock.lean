import RModel.Model.Lock
/-
  The inductive invariant of the lock transition system in the situations in which the lock does work: the
  lock file is absent or belongs to a scheduled live holder, nobody outlives the stale timeout, and either
  terminated processes linger (`exits = false`) or there are at most two processes.  (With three processes
  and exits the lock is broken: `C12_witness_exit_race`.)

  The invariants (`Inv` here, `GInv` for the guarded shape) are conjunctions of clauses `∀ q, … s.pc q …`.
  All reasoning goes through `At`: what the invariant says about ONE process standing at ONE program point.
  A step moves one process, so it has to establish `At` for the mover at its new point and to show that
  the others keep theirs.
-/
namespace Lock

theorem upd_same {α} (f : Nat → α) (i : Nat) (v : α) : upd f i v i = v := by simp [upd]
theorem upd_other {α} (f : Nat → α) (i j : Nat) (v : α) (h : j ≠ i) : upd f i v j = f j := by simp [upd, h]
theorem forall_upd {α} {f : Nat → α} {p : Nat} {v : α} {Φ : Nat → α → Prop}
    (hp : Φ p v) (ho : ∀ q, q ≠ p → Φ q (f q)) (q : Nat) : Φ q (upd f p v q) := by
  by_cases hq : q = p
  · rw [hq, upd_same]; exact hp
  · rw [upd_other _ _ _ _ hq]; exact ho q hq

theorem inoOf_inj {p q : Nat} (h : inoOf p = inoOf q) : p = q := by
  unfold inoOf at h; omega
theorem pidOf_inj {p q : Nat} (h : pidOf p = pidOf q) : p = q := by
  unfold pidOf at h; omega

theorem eq_or_eq_of_le_two {n p o r : Nat} (hn : n ≤ 2) (hp : p < n) (ho : o < n) (hop : o ≠ p) (hr : r < n) :
    r = p ∨ r = o := by omega

theorem base_alive {n q : Nat} (hq : q < n) (now : Nat) (debug exits : Bool) :
    (base n now debug exits).alive (pidOf q) = true :=
  decide_eq_true ⟨Nat.le_add_left 2 q, Nat.add_lt_add_right hq 2⟩

def Harmless (s : State) (t0 : Nat) (c : Content) : Prop :=
  (c = .empty ∧ s.abandon = .none) ∨ ∃ p ts, c = .pidts (pidOf p) ts ∧ p < s.n ∧ t0 ≤ ts ∧ ts ≤ s.now

/-- `t0` = earliest timestamp around, `T` = latest clock value considered -/
structure Inv (T t0 : Nat) (s : State) : Prop where
  mode : s.exits = false ∨ s.n ≤ 2
  window : T ≤ t0 + staleTimeout
  clockLo : t0 ≤ s.now
  idle : ∀ p, s.n ≤ p → s.pc p = .start
  liveness : ∀ p, p < s.n → s.alive (pidOf p) = true ∨ ((s.pc p).terminal = true ∧ s.exits = true)
  pend : ∀ q b, s.pc q = .unlinkPending b →
    s.cell = none ∧ ∀ r, r < s.n → r ≠ q → s.alive (pidOf r) = false
  reads : ∀ p c, s.pc p = .readDone c → Harmless s t0 c
  inodes : ∀ i, (s.cell = some i ∨ ∃ q, s.pc q = .opened i) → Harmless s t0 (s.files i)
  stamps : ∀ p ts, (s.pc p = .mkdir ts ∨ s.pc p = .create ts ∨ s.pc p = .created ts) → t0 ≤ ts ∧ ts ≤ s.now
  ownedCell : ∀ i, s.cell = some i →
    ∃ p, i = inoOf p ∧ (s.pc p).owns = true ∧ ∀ q, (s.pc q).owns = true → q = p
  freeCell : s.cell = none → ∀ q, (s.pc q).owns = false
  notStolen : s.stolen = false
  /-- unparsable lock files may be removed only if lock files are never visible incomplete -/
  publish : s.abandon ≠ .none → s.atomicPublish = true
  /-- this invariant is about the unguarded shape (`step`); the guarded one has `GInv` -/
  unguarded : s.guarded = false

theorem Harmless.mono {s s' : State} {t0 : Nat} {c : Content} (h : Harmless s t0 c)
    (ha : s'.n = s.n) (hb : s'.abandon = s.abandon) (hn : s.now ≤ s'.now) : Harmless s' t0 c :=
  h.imp (fun h => ⟨h.1, hb ▸ h.2⟩) fun ⟨p, ts, hc, hp, h1, h2⟩ => ⟨p, ts, hc, ha ▸ hp, h1, Nat.le_trans h2 hn⟩

theorem Harmless.ne_invalid {s : State} {t0 : Nat} {c : Content} (h : Harmless s t0 c) : c ≠ .invalid := by
  rintro rfl
  rcases h with ⟨h, _⟩ | ⟨_, _, h, _⟩ <;> cases h

theorem owns_not_terminal {v : Pc} (h : v.owns = true) : v.terminal = false := by
  cases v <;> first | rfl | cases h

theorem decide_young (d sat nd : Bool) (ab : Abandon) {now ts : Nat} (alive : Nat → Bool) (pid : Nat)
    (h1 : ts ≤ now) (h2 : now ≤ ts + staleTimeout) :
    decide' d sat nd ab now alive (.pidts pid ts) =
      if alive pid then .failed (.alreadyRunning pid) else .unlinkPending .orphaned := by
  have hsat : ¬ now - ts > staleTimeout := by omega
  have hst : ¬ wrapSub now ts > staleTimeout := by rw [wrapSub, if_pos h1]; exact hsat
  cases sat <;> cases nd <;> simp [decide', Nat.not_lt.2 h1, hst, hsat]

theorem decide_harmless {s : State} {T t0 : Nat} {c : Content} {v : Pc} (hw : T ≤ t0 + staleTimeout) (hT : s.now ≤ T)
    (h : Harmless s t0 c) (hv : decide' s.debug s.saturating s.staleNeedsDead s.abandon s.now s.alive c = v) :
    v = .mkdir s.now ∨ (∃ pid, v = .failed (.alreadyRunning pid)) ∨
    ∃ o, o < s.n ∧ s.alive (pidOf o) = false ∧ v = .unlinkPending .orphaned := by
  subst hv
  rcases h with ⟨rfl, hab⟩ | ⟨o, ts, rfl, ho, h1, h2⟩
  · exact Or.inl (by simp only [decide', hab])
  · rw [decide_young _ _ _ _ _ _ h2 (by omega)]
    cases hal : s.alive (pidOf o) with
    | true => exact Or.inr (Or.inl ⟨_, rfl⟩)
    | false => exact Or.inr (Or.inr ⟨o, ho, hal, rfl⟩)

/-- what a process at `x` has seen or decided, and why that is still good -/
def Inv.View (t0 : Nat) (s : State) (q : Nat) : Pc → Prop
  | .opened i => Harmless s t0 (s.files i)
  | .readDone c => Harmless s t0 c
  | .unlinkPending _ => s.cell = none ∧ ∀ r, r < s.n → r ≠ q → s.alive (pidOf r) = false
  | .mkdir ts | .create ts | .created ts => t0 ≤ ts ∧ ts ≤ s.now
  | _ => True

/-- `owner` is `ownedCell` and `freeCell` read per process -/
structure Inv.At (t0 : Nat) (s : State) (q : Nat) (x : Pc) : Prop where
  idle : q < s.n ∨ x = .start
  live : q < s.n → s.alive (pidOf q) = true ∨ (x.terminal = true ∧ s.exits = true)
  owner : x.owns = true ↔ s.cell = some (inoOf q)
  view : Inv.View t0 s q x

section
variable {T t0 : Nat} {s : State}

theorem Inv.owner_linked (h : Inv T t0 s) (p : Nat)
    (hp : (s.pc p).owns = true) : s.cell = some (inoOf p) := by
  cases hcell : s.cell with
  | none => rw [h.freeCell hcell p] at hp; cases hp
  | some i =>
    obtain ⟨o, hio, _, huniq⟩ := h.ownedCell i hcell
    rw [hio, huniq p hp]

theorem Inv.owners_unique (h : Inv T t0 s) (p q : Nat)
    (hp : (s.pc p).owns = true) (hq : (s.pc q).owns = true) : p = q :=
  inoOf_inj (Option.some.inj ((h.owner_linked p hp).symm.trans (h.owner_linked q hq)))

theorem Inv.released {T t0 : Nat} {s : State} (h : Inv T t0 s)
    (hall : ∀ p, (s.pc p).owns = false) : s.cell = none := by
  cases hcell : s.cell with
  | none => rfl
  | some i =>
    obtain ⟨o, _, hoo, _⟩ := h.ownedCell i hcell
    rw [hall o] at hoo; cases hoo

theorem Inv.cellOk (h : Inv T t0 s) (i : Nat) (hi : s.cell = some i) :
    Harmless s t0 (s.files i) ∧ ∃ p, i = inoOf p :=
  ⟨h.inodes i (Or.inl hi), (h.ownedCell i hi).imp fun _ ho => ho.1⟩

theorem Inv.atPc (h : Inv T t0 s) (q : Nat) : At t0 s q (s.pc q) := by
  refine ⟨(Nat.lt_or_ge q s.n).imp_right (h.idle q), h.liveness q, ⟨h.owner_linked q, fun hc => ?_⟩, ?_⟩
  · obtain ⟨o, hio, hoo, _⟩ := h.ownedCell _ hc
    rw [inoOf_inj hio]; exact hoo
  · cases hx : s.pc q with
    | opened i => exact h.inodes i (Or.inr ⟨q, hx⟩)
    | readDone c => exact h.reads q c hx
    | unlinkPending b => exact h.pend q b hx
    | mkdir ts => exact h.stamps q ts (Or.inl hx)
    | create ts => exact h.stamps q ts (Or.inr (Or.inl hx))
    | created ts => exact h.stamps q ts (Or.inr (Or.inr hx))
    | _ => trivial

theorem Inv.of_at (hm : s.exits = false ∨ s.n ≤ 2) (hw : T ≤ t0 + staleTimeout) (hc : t0 ≤ s.now)
    (hst : s.stolen = false) (hpub : s.abandon ≠ .none → s.atomicPublish = true) (hg : s.guarded = false)
    (hat : ∀ q, At t0 s q (s.pc q))
    (hcell : ∀ i, s.cell = some i → Harmless s t0 (s.files i) ∧ ∃ p, i = inoOf p) : Inv T t0 s := by
  have view : ∀ {q x}, s.pc q = x → View t0 s q x := fun hx => hx ▸ (hat _).view
  exact ⟨hm, hw, hc, fun q hq => (hat q).idle.resolve_left (Nat.not_lt.2 hq), fun q => (hat q).live,
    fun q b hq => view hq, fun q c hq => view hq,
    fun i hi => hi.elim (fun hi => (hcell i hi).1) fun ⟨q, hq⟩ => view hq,
    fun q ts hq => hq.elim view fun hq => hq.elim view view,
    fun i hi => (hcell i hi).2.imp fun p hip => ⟨hip, (hat p).owner.2 (hip ▸ hi), fun q hq =>
      inoOf_inj (Option.some.inj (((hat q).owner.1 hq).symm.trans (hip ▸ hi)))⟩,
    fun hc q => Bool.eq_false_iff.2 (fun ho => nomatch hc.symm.trans ((hat q).owner.1 ho)), hst, hpub, hg⟩

theorem Inv.View.mono {s' : State} {q : Nat} {x : Pc} (h : View t0 s q x)
    (hn : s'.n = s.n) (hab : s'.abandon = s.abandon) (hnow : s.now ≤ s'.now)
    (hal : ∀ r, s.alive r = false → s'.alive r = false)
    (hcell : s.cell = none → (∀ r, r < s.n → r ≠ q → s.alive (pidOf r) = false) → s'.cell = none)
    (hfiles : ∀ i, Harmless s t0 (s.files i) → Harmless s t0 (s'.files i)) : View t0 s' q x := by
  have hm : ∀ {c}, Harmless s t0 c → Harmless s' t0 c := fun hc => hc.mono hn hab hnow
  have hts : ∀ {ts}, t0 ≤ ts ∧ ts ≤ s.now → t0 ≤ ts ∧ ts ≤ s'.now := fun h => ⟨h.1, Nat.le_trans h.2 hnow⟩
  cases x with
  | opened i => exact hm (hfiles i h)
  | readDone c => exact hm h
  | unlinkPending b => exact ⟨hcell h.1 h.2, fun r hr hrq => hal _ (h.2 r (hn ▸ hr) hrq)⟩
  | mkdir ts | create ts | created ts => exact hts h
  | _ => trivial

theorem Inv.alive (h : Inv T t0 s) {p : Nat} (hp : p < s.n) (hx : (s.pc p).terminal = false) :
    s.alive (pidOf p) = true :=
  (h.liveness p hp).resolve_right fun ht => by rw [hx] at ht; cases ht.1

theorem Inv.move (h : Inv T t0 s) {p : Nat} {x v : Pc} (hp : p < s.n) (hpc : s.pc p = x) (hv : View t0 s p v)
    (hx : x.terminal = false := by rfl) (hown : v.owns = x.owns := by rfl) :
    Inv T t0 { s with pc := upd s.pc p v } :=
  .of_at h.mode h.window h.clockLo h.notStolen h.publish h.unguarded
    (forall_upd ⟨Or.inl hp, fun _ => Or.inl (h.alive hp (hpc ▸ hx)),
        by rw [hown, ← hpc]; exact (h.atPc p).owner, hv⟩
      fun q _ => { h.atPc q with })
    h.cellOk

theorem Inv.ambient (h : Inv T t0 s) {now' : Nat} {alive' : Nat → Bool} {files' : Nat → Content} (hnow : s.now ≤ now')
    (hlive : ∀ q, q < s.n → alive' (pidOf q) = true ∨ ((s.pc q).terminal = true ∧ s.exits = true))
    (hdead : ∀ r, s.alive r = false → alive' r = false)
    (hfiles : ∀ i, Harmless s t0 (s.files i) → Harmless s t0 (files' i)) :
    Inv T t0 { s with now := now', alive := alive', files := files' } :=
  .of_at h.mode h.window (Nat.le_trans h.clockLo hnow) h.notStolen h.publish h.unguarded
    (fun q => { h.atPc q with
      live := hlive q, view := (h.atPc q).view.mono rfl rfl hnow hdead (fun hc _ => hc) hfiles })
    fun i hi => ⟨(hfiles i (h.cellOk i hi).1).mono rfl rfl hnow, (h.cellOk i hi).2⟩

theorem Inv.setFile (h : Inv T t0 s) (i : Nat) {c : Content} (hc : Harmless s t0 c) :
    Inv T t0 { s with files := upd s.files i c } :=
  h.ambient (Nat.le_refl _) h.liveness (fun _ hr => hr)
    (forall_upd (Φ := fun j c' => Harmless s t0 (s.files j) → Harmless s t0 c') (fun _ => hc) fun _ _ hj => hj)

theorem Inv.exit (h : Inv T t0 s) {p : Nat} (hterm : (s.pc p).terminal = true) (hex : s.exits = true) :
    Inv T t0 { s with alive := upd s.alive (pidOf p) false } := by
  refine h.ambient (Nat.le_refl _) (fun q hq => ?_)
    (forall_upd (Φ := fun r b => s.alive r = false → b = false) (fun _ => rfl) fun _ _ hr => hr) fun _ hi => hi
  by_cases hqp : q = p
  · rw [hqp]; exact Or.inr ⟨hterm, hex⟩
  · rw [upd_other _ _ _ _ fun e => hqp (pidOf_inj e)]; exact h.liveness q hq

/-- `create_new`, or `hard_link` of the finished temporary file: the lock path gets linked to `p`'s inode, holding `c` -/
theorem Inv.link (h : Inv T t0 s) {p : Nat} {v : Pc} {c : Content} (hp : p < s.n) (hx : (s.pc p).terminal = false)
    (hcell : s.cell = none) (hvo : v.owns = true) (hv : View t0 s p v) (hc : Harmless s t0 c) :
    Inv T t0 { s with cell := some (inoOf p), files := upd s.files (inoOf p) c, pc := upd s.pc p v } := by
  have hal := h.alive hp hx
  have h := h.setFile (inoOf p) hc
  refine .of_at h.mode h.window h.clockLo h.notStolen h.publish h.unguarded
    (forall_upd ⟨Or.inl hp, fun _ => Or.inl hal, ⟨fun _ => rfl, fun _ => hvo⟩, ?_⟩
      fun q hqp => { h.atPc q with owner := ⟨fun ho => ?_, fun hc => ?_⟩, view := ?_ })
    fun i hi => by cases hi; exact ⟨by show Harmless _ t0 (upd s.files _ c _); rw [upd_same]; exact hc, p, rfl⟩
  · -- an owner's view is at most a time stamp
    cases v <;> first | exact hv | trivial | cases hvo
  · rw [h.freeCell hcell q] at ho; cases ho
  · exact absurd (inoOf_inj (Option.some.inj hc)) (Ne.symm hqp)
  · -- a pending unlink elsewhere would mean that everybody else, `p` included, is dead
    exact (h.atPc q).view.mono rfl rfl (Nat.le_refl _) (fun _ hr => hr)
      (fun _ hd => by rw [hd p hp (Ne.symm hqp)] at hal; cases hal) fun _ hi => hi

theorem steals_own (s : State) (p : Nat) : steals s p (inoOf p) = false := by
  simp [steals, inoOf]

/-- an owner unlinks the lock path (Drop, or `release_held_locks` at the prompt): under the invariant the
    file there is its own -/
theorem Inv.unlinkOwn (h : Inv T t0 s) {p i : Nat} (hp : p < s.n) (hpo : (s.pc p).owns = true)
    (hcell : s.cell = some i) :
    Inv T t0 { s with cell := none, stolen := s.stolen || steals s p i, pc := upd s.pc p .done } := by
  have hi : i = inoOf p := Option.some.inj (hcell ▸ h.owner_linked p hpo)
  refine .of_at h.mode h.window h.clockLo ?_ h.publish h.unguarded
    (forall_upd ⟨Or.inl hp, fun _ => Or.inl (h.alive hp (owns_not_terminal hpo)),
        ⟨nofun, nofun⟩, trivial⟩
      fun q hqp => { h.atPc q with
        owner := ⟨fun ho => absurd (h.owners_unique q p ho hpo) hqp, nofun⟩
        view := (h.atPc q).view.mono rfl rfl (Nat.le_refl _) (fun _ hr => hr) (fun _ _ => rfl) fun _ hi => hi })
    nofun
  show (s.stolen || steals s p i) = false
  rw [h.notStolen, hi, steals_own]
  rfl

/-- Drop's test "is the file at the lock path still mine" passes for an owner whose file is there; without the test
    everybody passes (the `if` of `step`/`gstep` at `dropCheck` and of `promptExit`) -/
theorem check_passes {s : State} {p i : Nat} (hd : s.dropChecks = false ∨ s.cell = some (inoOf p))
    (hc : s.cell = some i) : ¬ (s.dropChecks = true ∧ i ≠ inoOf p) := by
  rintro ⟨h1, h2⟩
  rcases hd with hd | hd
  · rw [hd] at h1; cases h1
  · exact h2 (Option.some.inj (hc.symm.trans hd))

theorem Inv.step (h : Inv T t0 s) (hT : s.now ≤ T) (p : Nat) : Inv T t0 ((Lock.step s p).getD s) := by
  unfold Lock.step
  by_cases hp : p < s.n
  · rw [if_pos hp]
    have exit : ∀ {x}, s.pc p = x → x.terminal = true → Inv T t0 ((if s.exits = true ∧ s.alive (pidOf p) = true
        then some { s with alive := upd s.alive (pidOf p) false } else none).getD s) := fun hx hxt => by
      split
      next hc => exact h.exit (hx ▸ hxt) hc.1
      next => exact h
    cases hpc : s.pc p with
    | start =>
      simp only []
      split
      next => exact h.move hp hpc trivial
      next => exact h.move hp hpc ⟨h.clockLo, Nat.le_refl _⟩
    | locked => exact h
    | sawPresent =>
      simp only []
      split
      next i hcell => exact h.move hp hpc (h.inodes i (Or.inl hcell))
      next => exact h.move hp hpc trivial
    | opened i =>
      have hi := h.inodes i (Or.inr ⟨p, hpc⟩)
      simp only []
      rw [if_neg hi.ne_invalid]
      exact h.move hp hpc hi
    | readDone c =>
      simp only []
      rcases decide_harmless h.window hT (h.reads p c hpc) rfl with hd | ⟨pid, hd⟩ | ⟨o, ho, hod, hd⟩ <;> rw [hd]
      · exact h.move hp hpc ⟨h.clockLo, Nat.le_refl _⟩
      · exact h.move hp hpc trivial
      · -- the writer `o` has left: then `p` and `o` are the only processes, `o` is gone, and the lock file it
        -- owned is gone with it
        obtain ⟨hoterm, hex⟩ := (h.liveness o ho).resolve_left (by rw [hod]; nofun)
        have hop : o ≠ p := fun e => by rw [e, h.alive hp (hpc ▸ rfl)] at hod; cases hod
        have two : ∀ r, r < s.n → r = p ∨ r = o := fun r =>
          eq_or_eq_of_le_two (h.mode.resolve_left (by rw [hex]; nofun)) hp ho hop
        refine h.move hp hpc ⟨h.released fun x => Bool.eq_false_iff.2 fun hxo => ?_,
          fun r hr hrp => (two r hr).resolve_left hrp ▸ hod⟩
        have hxn : x < s.n := Nat.lt_of_not_le fun hle => by rw [h.idle x hle] at hxo; cases hxo
        rcases two x hxn with rfl | rfl
        · rw [hpc] at hxo; cases hxo
        · rw [owns_not_terminal hxo] at hoterm; cases hoterm
    | unlinkPending b =>
      simp only []
      split
      next i hcell => rw [(h.pend p b hpc).1] at hcell; cases hcell
      next => exact h.move hp hpc trivial
    | mkdir ts => exact h.move hp hpc (h.stamps p ts (Or.inl hpc))
    | create ts =>
      have hst := h.stamps p ts (Or.inr (Or.inl hpc))
      simp only []
      split
      next hcell =>
        split
        next => exact h.link hp (hpc ▸ rfl) hcell rfl trivial (Or.inr ⟨p, ts, rfl, hp, hst⟩)
        next hat =>
          have hab : s.abandon = .none := Classical.byContradiction fun hab => hat (h.publish hab)
          exact h.link hp (hpc ▸ rfl) hcell rfl hst (Or.inl ⟨rfl, hab⟩)
      next => exact h.move hp hpc trivial
    | created ts =>
      have hst := h.stamps p ts (Or.inr (Or.inr hpc))
      exact (h.setFile (inoOf p) (Or.inr ⟨p, ts, rfl, hp, hst⟩)).move hp hpc trivial
    | holding => exact h.move hp hpc trivial
    | dropCheck =>
      -- under the invariant the linked file is the owner's own, so a content check changes nothing
      have hlink := h.owner_linked p (hpc ▸ rfl)
      simp only []
      split
      next i hcell =>
        rw [if_neg (check_passes (Or.inr hlink) hcell)]
        exact h.move hp hpc trivial
      next hcell => rw [hlink] at hcell; cases hcell
    | dropUnlink =>
      simp only []
      split
      next i hcell => exact h.unlinkOwn hp (hpc ▸ rfl) hcell
      next hcell => rw [h.owner_linked p (hpc ▸ rfl)] at hcell; cases hcell
    | done | failed _ | panicked => exact exit hpc rfl
  · rw [if_neg hp]; exact h

theorem Inv.promptExit (h : Inv T t0 s) (p : Nat) : Inv T t0 (Lock.promptExit s p) := by
  unfold Lock.promptExit
  split
  next hc =>
    have hpo : (s.pc p).owns = true := by rw [hc.2.1]; rfl
    have hlink := h.owner_linked p hpo
    split
    next i hcell =>
      rw [if_neg (check_passes (Or.inr hlink) hcell)]
      exact h.unlinkOwn hc.1 hpo hcell
    next hcell => rw [hlink] at hcell; cases hcell
  next => exact h

end

def Frame (s : State) (p : Nat) (s' : State) : Prop :=
  s'.now = s.now ∧ (∀ r, r ≠ p → s'.pc r = s.pc r) ∧ ((s.pc p).terminal = true → s'.pc p = s.pc p)

theorem Frame.same {s s' : State} (p : Nat) (hnow : s'.now = s.now) (hpc : s'.pc = s.pc) : Frame s p s' :=
  ⟨hnow, fun _ _ => hpc ▸ rfl, fun _ => hpc ▸ rfl⟩

theorem Frame.moved {s : State} {p : Nat} {c : Option Nat} {f : Nat → Content} {a : Nat → Bool} {g : Option Nat}
    {st : Bool} {v : Pc} (hx : (s.pc p).terminal = false) :
    Frame s p { s with cell := c, files := f, alive := a, guard := g, stolen := st, pc := upd s.pc p v } :=
  ⟨rfl, fun _ hr => upd_other _ _ _ _ hr, fun ht => by rw [hx] at ht; cases ht⟩

theorem step_frame (s : State) (p : Nat) : Frame s p ((step s p).getD s) := by
  unfold step
  by_cases hp : p < s.n
  · rw [if_pos hp]
    -- in every branch of every program counter the result is `none`, or `s` itself with other fields than the clock
    -- updated: with `pc := upd s.pc p v` from a counter that is not terminal (`moved`), or with `s.pc` (`same`)
    cases hpc : s.pc p <;> simp only [] <;> (try split) <;> (try split) <;> first
      | exact .moved (hpc ▸ rfl)
      | exact .same p rfl rfl
  · rw [if_neg hp]; exact .same p rfl rfl

theorem gstep_frame (s : State) (p : Nat) : Frame s p ((gstep s p).getD s) := by
  unfold gstep
  by_cases hp : p < s.n
  · rw [if_pos hp]
    cases hpc : s.pc p <;> simp only [] <;> (try split) <;> (try split) <;> (try split) <;> first
      | exact .moved (hpc ▸ rfl)
      | exact .same p rfl rfl
  · rw [if_neg hp]; exact .same p rfl rfl

theorem promptExit_frame (s : State) (p : Nat) : Frame s p (promptExit s p) := by
  unfold promptExit
  split
  next hc => split <;> (try split) <;> exact .moved (hc.2.1 ▸ rfl)
  next => exact .same p rfl rfl

theorem stepEv_proc_frame (s : State) (p : Nat) : Frame s p (stepEv s (.proc p)) := by
  show Frame s p (if s.guarded = true then (gstep s p).getD s else (step s p).getD s)
  split
  · exact gstep_frame s p
  · exact step_frame s p

theorem stepEv_proc_unguarded {s : State} (hg : s.guarded = false) (p : Nat) :
    stepEv s (.proc p) = (step s p).getD s := by
  show (if s.guarded = true then _ else _) = _
  rw [if_neg (by rw [hg]; nofun)]

theorem now_le_stepEv (s : State) (e : Ev) : s.now ≤ (stepEv s e).now := by
  cases e with
  | tick d => exact Nat.le_add_right _ _
  | proc p => exact Nat.le_of_eq (stepEv_proc_frame s p).1.symm
  | promptInt p => exact Nat.le_of_eq (promptExit_frame s p).1.symm

theorem now_le_run (es : List Ev) : ∀ s : State, s.now ≤ (run s es).now := by
  induction es with
  | nil => intro s; exact Nat.le_refl _
  | cons e es ih => intro s; exact Nat.le_trans (now_le_stepEv s e) (ih _)

theorem runP_now (s : State) (sched : List Nat) : (runP s sched).now = s.now := by
  induction sched generalizing s with
  | nil => rfl
  | cons p l ih => exact (ih _).trans (stepEv_proc_frame s p).1

theorem stepEv_terminal (s : State) (q : Nat) (h : (s.pc q).terminal = true) (e : Ev) : (stepEv s e).pc q = s.pc q := by
  have frame : ∀ {p s'}, Frame s p s' → s'.pc q = s.pc q := fun {p} _ hf => by
    by_cases hq : q = p
    · subst hq; exact hf.2.2 h
    · exact hf.2.1 q hq
  cases e with
  | tick d => rfl
  | proc p => exact frame (stepEv_proc_frame s p)
  | promptInt p => exact frame (promptExit_frame s p)

theorem run_terminal (es : List Ev) : ∀ (s : State) (q : Nat), (s.pc q).terminal = true → (run s es).pc q = s.pc q := by
  induction es with
  | nil => intro s q _; rfl
  | cons e es ih =>
    intro s q h
    have he := stepEv_terminal s q h e
    exact (ih _ q (he ▸ h)).trans he

theorem Inv.stepEv {T t0 : Nat} {s : State} (h : Inv T t0 s) (e : Ev) (hT : (stepEv s e).now ≤ T) :
    Inv T t0 (Lock.stepEv s e) := by
  cases e with
  | tick d => exact h.ambient (Nat.le_add_right _ _) h.liveness (fun _ hr => hr) fun _ hi => hi
  | proc p =>
    rw [stepEv_proc_unguarded h.unguarded]
    exact h.step (Nat.le_trans (now_le_stepEv s (.proc p)) hT) p
  | promptInt p => exact h.promptExit p

theorem Inv.run {T t0 : Nat} (es : List Ev) : ∀ {s : State}, Inv T t0 s → (run s es).now ≤ T →
    Inv T t0 (Lock.run s es) := by
  induction es with
  | nil => intro s h _; exact h
  | cons e es ih => intro s h hT; exact ih (h.stepEv e (Nat.le_trans (now_le_run es _) hT)) hT

/-! ### malformed lock file: nobody ever gets in -/

/-- program points a process can be at while an unparseable lock file sits at the path -/
def stuckOk (f0 : Content) : Pc → Bool
  | .start | .sawPresent | .mkdir _ | .create _ => true
  | .opened i => i == 0
  | .readDone c => c == f0
  | .failed e => e == .createExists || e == .readInvalid
  | _ => false

structure Stuck (f0 : Content) (s : State) : Prop where
  malformed : f0 = .empty ∨ f0 = .garbage ∨ f0 = .invalid
  policy : (f0 = .empty → s.abandon = .none) ∧ (f0 = .garbage → s.abandon ≠ .unparsable)
  strictRead : f0 = .invalid → s.lossyRead = false
  unguarded : s.guarded = false
  cell : s.cell = some 0
  file : s.files 0 = f0
  pcs : ∀ p, stuckOk f0 (s.pc p) = true

theorem stuckOk_decide (f0 : Content) (h : f0 = .empty ∨ f0 = .garbage ∨ f0 = .invalid) (d sat nd : Bool) (ab : Abandon)
    (hpol : (f0 = .empty → ab = .none) ∧ (f0 = .garbage → ab ≠ .unparsable)) (now : Nat) (al : Nat → Bool) :
    stuckOk f0 (decide' d sat nd ab now al f0) = true := by
  rcases h with h | h | h <;> subst h
  · rw [hpol.1 rfl]; rfl
  · have := hpol.2 rfl
    cases ab <;> first | rfl | exact absurd rfl this
  · rfl

theorem Stuck.move {f0 : Content} {s : State} (h : Stuck f0 s) (p : Nat) {v : Pc}
    (hv : stuckOk f0 v = true) : Stuck f0 { s with pc := upd s.pc p v } :=
  { h with pcs := forall_upd (Φ := fun _ x => stuckOk f0 x = true) hv fun q _ => h.pcs q }

theorem Stuck.step {f0 : Content} {s : State} (h : Stuck f0 s) (p : Nat) : Stuck f0 ((Lock.step s p).getD s) := by
  have present : ∀ {P : Prop}, s.cell = none → P := fun hc => by rw [h.cell] at hc; cases hc
  unfold Lock.step
  by_cases hp : p < s.n
  · rw [if_pos hp]
    have hok := h.pcs p
    cases hpc : s.pc p with
    | start =>
      simp only []
      split
      next => exact h.move p rfl
      next hc => exact present hc
    | sawPresent =>
      simp only []
      split
      next i hc =>
        obtain rfl : i = 0 := Option.some.inj (hc.symm.trans h.cell)
        exact h.move p rfl
      next hc => exact present hc
    | opened i =>
      rw [hpc] at hok
      obtain rfl : i = 0 := eq_of_beq hok
      simp only []
      rw [h.file]
      by_cases hinv : f0 = .invalid
      · rw [if_pos hinv, if_neg (by rw [h.strictRead hinv]; nofun)]
        exact h.move p rfl
      · rw [if_neg hinv]
        exact h.move p (beq_self_eq_true f0)
    | readDone c =>
      rw [hpc] at hok
      obtain rfl : c = f0 := eq_of_beq hok
      exact h.move p (stuckOk_decide c h.malformed _ _ _ _ h.policy _ _)
    | mkdir ts => exact h.move p rfl
    | create ts =>
      simp only []
      split
      next hc => exact present hc
      next => exact h.move p rfl
    | failed e =>
      simp only []
      split
      next => exact { h with }
      next => exact h
    | _ => rw [hpc] at hok; cases hok
  · rw [if_neg hp]; exact h

theorem Stuck.run {f0 : Content} (es : List Ev) : ∀ {s : State}, Stuck f0 s → Stuck f0 (Lock.run s es) := by
  induction es with
  | nil => intro s h; exact h
  | cons e es ih =>
    intro s h
    apply ih
    cases e with
    | tick d => exact { h with }
    | proc p =>
      rw [stepEv_proc_unguarded h.unguarded]
      exact h.step p
    | promptInt p =>
      show Stuck f0 (promptExit s p)
      unfold promptExit
      split
      next hc => have := h.pcs p; rw [hc.2.1] at this; cases this
      next => exact h

end Lock
