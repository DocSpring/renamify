import RModel.Lemmas.RenamePhase
import RModel.Model.Undo
/-
  Undo STEP 1 (`undo_paths`): one `rename(to, from)` removes exactly one rename from the reference map
  (`moveAll (x :: R) t  ↦  moveAll R t`), provided no remaining rename has a source that is a proper prefix of `x`'s
  source; the two loops of STEP 1 process the plan in such an order, and the adjustment loop between them changes
  nothing.
-/
namespace UndoLemmas
open Fs Apply RenamePhase Undo

def mp (r : Ren) : Mapping := (r.path, r.newPath)

def NoProperPrefix (R : List Ren) (p : Path) : Prop := ∀ y ∈ R, pre y.path p = true → y.path = p

structure Guards (t : Tree) (R : List Ren) : Prop where
  lo : LastOnly R
  ds : Distinct R
  wf : GTreeWF t
  ko : GKindsOk t R
  df : GDestFree t R

theorem Guards.treeOk {t : Tree} {R : List Ren} (g : Guards t R) : TreeOk t R :=
  treeOk_of_guards g.wf g.lo g.ko g.df

theorem Guards.of_mem {t : Tree} {R R' : List Ren} (g : Guards t R) (hd : Distinct R')
    (hs : ∀ r ∈ R', r ∈ R) : Guards t R' where
  lo := fun r hr => g.lo r (hs r hr)
  ds := hd
  wf := g.wf
  ko := fun r hr => g.ko r (hs r hr)
  df := fun r hr => ⟨(g.df r (hs r hr)).1, fun r' hr' => (g.df r (hs r hr)).2 r' (hs r' hr')⟩

theorem Guards.perm {t : Tree} {R R' : List Ren} (g : Guards t R) (p : List.Perm R R') : Guards t R' :=
  g.of_mem (Distinct.perm p g.ds) fun _ hr => p.mem_iff.2 hr

theorem undo_step {t : Tree} {x : Ren} {R' : List Ren} (g : Guards t (x :: R'))
    (hnp : NoProperPrefix R' x.path) :
    rename (moveAll (x :: R') t) x.newPath x.path = .ok (moveAll R' t) ∧
    lookup (moveAll (x :: R') t) x.newPath = lookup t x.path := by
  have hxR : x ∈ x :: R' := List.mem_cons_self
  obtain ⟨par, a, c, hp, hn⟩ := lastOnly_shape g.lo hxR
  have hdd := g.df.distinctDests g.lo
  have hfk := g.treeOk.fresh
  have hfx : Fresh (x :: R') x.path := g.treeOk.freshSrc x hxR
  obtain ⟨na, hna⟩ := Option.isSome_iff_exists.1 (g.ko x hxR).1
  have hpar : pre par x.path = true := by rw [hp]; exact pre_append par [a]
  have hother : ∀ r ∈ R', pre r.path x.path = false := fun r hr =>
    Bool.eq_false_iff.2 fun h => (List.pairwise_cons.1 g.ds).1 r hr (hnp r hr h).symm
  -- no source is a prefix of the parent, so the parent does not move
  have F1 : finalPath (x :: R') par = par := by
    refine finalPath_eq_self _ _ fun r hr => Bool.eq_false_iff.2 fun h => ?_
    rcases List.mem_cons.1 hr with h1 | h1
    · rw [h1, hp, pre_snoc_self] at h
      cases h
    · exact Bool.eq_false_iff.1 (hother r h1) (pre_trans h hpar)
  have F2 : finalPath (x :: R') x.path = x.newPath := by
    rw [hp, finalPath_snoc, F1, ← hp, newName_of_mem g.ds hxR, hn, List.getLast?_concat]; rfl
  have F3 : lookup (moveAll (x :: R') t) x.newPath = lookup t x.path := by
    rw [← F2]; exact lookup_moveAll g.lo g.wf g.df (mem_of_lookup hna)
  refine ⟨?_, F3⟩
  have F4 : parentOk (moveAll (x :: R') t) x.path = .ok () := by
    have hdl : x.path.dropLast = par := by rw [hp, List.dropLast_concat]
    rw [parentOk, hdl]
    by_cases hpar0 : par = []
    · rw [hpar0]; rfl
    · obtain ⟨m, hm⟩ := g.treeOk.par x hxR (hdl ▸ hpar0)
      rw [hdl] at hm
      have := lookup_moveAll g.lo g.wf g.df (mem_of_lookup hm)
      rw [F1, hm] at this
      simp [this, hpar0]
  -- the source is free again (unless the rename is an identity): a node that ends at the fresh path `x.path` has
  -- not moved, so it is the source, which ends at `x.newPath`
  have F6 : x.newPath ≠ x.path → lookup (moveAll (x :: R') t) x.path = none := fun hne =>
    lookup_map_none _ _ _ fun e _ heq => by
      have hfix := finalPath_of_fresh g.lo e.1 (heq ▸ hfx)
      exact hne (F2.symm.trans ((hfix.symm.trans heq) ▸ hfix))
  -- substituting the source back for the destination undoes `x`'s part of `finalPath`
  have hkey : ∀ e ∈ t, subst x.newPath x.path (finalPath (x :: R') e.1) = finalPath R' e.1 := fun e he => by
    cases hpre : pre x.path e.1 with
    | true =>
      obtain ⟨s, hs⟩ := pre_iff.1 hpre
      have hgo : go (x :: R') x.path s = go R' x.path s :=
        go_congr _ _ _ _ fun s1 s2 _ hne1 => newName_cons_ne x R' (append_ne_self hne1).symm
      rw [hs, finalPath_append, finalPath_append, F2, hgo, finalPath_eq_self R' _ hother, subst_append]
    | false =>
      have hcongr : finalPath (x :: R') e.1 = finalPath R' e.1 :=
        finalPath_congr _ _ _ fun u hu => newName_cons_ne x R' fun h => by rw [h, hu] at hpre; cases hpre
      rw [← hcongr]
      refine subst_of_not_pre (Bool.eq_false_iff.2 fun h => Bool.eq_false_iff.1 hpre ?_)
      exact pre_of_pre_finalPath g.lo hdd hfx (hfk e he) (F2 ▸ h)
  rw [rename_move _ _ _ na (F3.trans hna) F4 (lastOnly_length g.lo hxR) F6, moveAll, List.map_map]
  exact congrArg _ (List.map_congr_left fun e he => Prod.ext (hkey e he) rfl)

/-- a loop of undo STEP 1 over `S`, the renames `K` staying in force -/
theorem renameBack_loop (t : Tree) (K : List Ren) : ∀ (S : List Ren), Guards t (S ++ K) →
    S.Pairwise (fun x y => pre y.path x.path = true → y.path = x.path) →
    (∀ x ∈ S, NoProperPrefix K x.path) →
    renameBack (moveAll (S ++ K) t) (S.map mp) = (moveAll K t, none) := by
  intro S
  induction S with
  | nil => intro _ _ _; rfl
  | cons x S ih =>
    intro g hord hK
    have hc := List.pairwise_cons.1 hord
    have hnp : NoProperPrefix (S ++ K) x.path := fun y hy hpre =>
      (List.mem_append.1 hy).elim (fun h => hc.1 y h hpre) (fun h => hK x List.mem_cons_self y h hpre)
    obtain ⟨h1, h2⟩ := undo_step (R' := S ++ K) g hnp
    obtain ⟨na, hna⟩ := Option.isSome_iff_exists.1 (g.ko x List.mem_cons_self).1
    have hex2 : guardExists (moveAll (x :: (S ++ K)) t) x.newPath = true := by
      rw [guardExists, exists_, h2.trans hna]; simp
    have := ih (g.of_mem (List.pairwise_cons.1 g.ds).2 fun _ h => List.mem_cons_of_mem _ h) hc.2
      (fun y hy => hK y (List.mem_cons_of_mem _ hy))
    unfold renameBack at this ⊢
    simp only [List.map_cons, List.cons_append, mp, renameBackWith, hex2, if_true, h1]
    exact this

theorem renameBack_perm {t : Tree} {L S K : List Ren} (g : Guards t L) (p : List.Perm L (S ++ K))
    (hord : S.Pairwise (fun x y => pre y.path x.path = true → y.path = x.path))
    (hK : ∀ x ∈ S, NoProperPrefix K x.path) :
    renameBackWith guardExists (moveAll L t) (S.map mp) = (moveAll K t, none) := by
  rw [← moveAll_perm g.ds p t]
  exact renameBack_loop t K S (g.perm p) hord hK

theorem insertM_map (le : Mapping → Mapping → Bool) (x : Ren) (l : List Ren) :
    insertM le (mp x) (l.map mp) = (insertBy (fun a b => le (mp a) (mp b)) x l).map mp := by
  induction l with
  | nil => rfl
  | cons y ys ih =>
    simp only [List.map_cons, insertM, insertBy]
    split
    · rfl
    · rw [ih]; rfl

theorem sortM_map (le : Mapping → Mapping → Bool) (l : List Ren) :
    sortM le (l.map mp) = (sortBy (fun a b => le (mp a) (mp b)) l).map mp := by
  induction l with
  | nil => rfl
  | cons x xs ih => simp only [List.map_cons, sortM, sortBy, ih, insertM_map]

/-- a directory destination that is a prefix of a file destination belongs to an identity rename -/
theorem adjust_noop {t : Tree} {rs : List Ren} (g : Guards t rs) (dm : List Mapping)
    (hdm : ∀ d ∈ dm, ∃ x ∈ rs, x.kind = .dir ∧ d = mp x) {r : Ren} (hr : r ∈ rs) (hk : r.kind = .file) :
    adjust dm r = mp r := by
  have hfr : Fresh rs r.path := g.treeOk.freshSrc r hr
  obtain ⟨par, a, c, hp, hn⟩ := lastOnly_shape g.lo hr
  have ident : ∀ x ∈ rs, x.kind = .dir → pre x.newPath r.newPath = true → x.newPath = x.path := by
    intro x hx hxk hpre
    by_cases hlen : x.newPath.length ≤ par.length
    · -- a prefix of the parent, hence of the source
      refine hfr x hx (pre_trans ?_ (by rw [hp]; exact pre_append par [a]))
      obtain ⟨s, hs⟩ := pre_iff.1 hpre
      have h0 := congrArg (List.take x.newPath.length) hs
      rw [hn, List.take_append_of_le_length hlen, List.take_left' rfl] at h0
      exact pre_iff.2 ⟨_, (h0 ▸ List.take_append_drop x.newPath.length par).symm⟩
    · -- the destination of `r` itself: then `x` is `r`, a directory and a file at once
      have heq : x.newPath = r.newPath :=
        pre_eq_of_length hpre (by rw [hn, List.length_append]; exact Nat.lt_of_not_le hlen)
      have hkx := (g.ko x hx).2.1 hxk
      rw [g.df.distinctDests g.lo x hx r hr heq] at hkx
      have := (g.ko r hr).2.2 hkx
      rw [hk] at this; cases this
  unfold adjust
  induction dm with
  | nil => rfl
  | cons d dm ih =>
    obtain ⟨x, hx, hxk, rfl⟩ := hdm d List.mem_cons_self
    have h2 : pre x.newPath r.newPath = true → x.path ++ r.newPath.drop x.newPath.length = r.newPath := by
      intro hpre
      obtain ⟨s, hs⟩ := pre_iff.1 hpre
      rw [← ident x hx hxk hpre]
      conv => lhs; rw [hs, List.drop_left]
      exact hs.symm
    have ih' := ih fun d' hd' => hdm d' (List.mem_cons_of_mem _ hd')
    rw [List.foldl_cons]
    by_cases c1 : pre x.newPath r.newPath = true
    · simp only [mp, c1, h2 c1, ite_self]; exact ih'
    · simp only [mp, c1, Bool.false_eq_true, if_false, ite_self]; exact ih'

theorem undo_paths_core {t : Tree} {rs : List Ren} (g : Guards t rs) :
    undoRenames rs (moveAll rs t) = (t, none) := by
  have hfl := fileLeaf_of_guards g.wf g.lo g.ko
  let leD : Ren → Ren → Bool := fun a b => decide (depth (mp a).2 ≤ depth (mp b).2)
  let leF : Ren → Ren → Bool := fun a b => decide (depth (mp b).2 ≤ depth (mp a).2)
  let D := rs.filter (fun r => r.kind == .dir)
  let F := rs.filter (fun r => r.kind == .file)
  have hD : ∀ r ∈ sortBy leD D, r ∈ rs ∧ r.kind = .dir := fun r hr => by
    simpa [D] using List.mem_filter.1 ((sortBy_perm leD D).mem_iff.1 hr)
  have hF : ∀ r ∈ F, r ∈ rs ∧ r.kind = .file := fun r hr => by simpa [F] using List.mem_filter.1 hr
  have hperm : List.Perm rs (sortBy leD D ++ F) :=
    (kinds_perm rs).symm.trans ((sortBy_perm leD D).symm.append_right F)
  -- directories: shallowest destination first, so no directory comes before one of its proper prefixes
  have hloop1 : renameBackWith guardExists (moveAll rs t) ((sortBy leD D).map mp) = (moveAll F t, none) := by
    refine renameBack_perm g hperm ?_ (fun x hx k hk hpre => hfl k (hF k hk).1 (hF k hk).2 x (hD x hx).1 hpre)
    have hs : (sortBy leD D).Pairwise (fun a b => a.newPath.length ≤ b.newPath.length) :=
      sortBy_decide_sorted (fun a b => a.newPath.length ≤ b.newPath.length) (fun _ _ => Nat.le_total _ _)
        (fun _ _ _ => Nat.le_trans) D
    refine hs.imp_of_mem fun {x y} hx hy hle hpre => ?_
    rw [lastOnly_length g.lo (hD x hx).1, lastOnly_length g.lo (hD y hy).1] at hle
    exact pre_eq_of_length hpre hle
  -- files: no file source is a proper prefix of anything, any order does
  have hfr : fileRenames ((sortBy leD D).map mp) rs = F.map mp :=
    List.map_congr_left fun r hr => adjust_noop g _ (fun d hd => by
      obtain ⟨x, hx, rfl⟩ := List.mem_map.1 hd
      exact ⟨x, (hD x hx).1, (hD x hx).2, rfl⟩) (hF r hr).1 (hF r hr).2
  have hS2 : ∀ r ∈ sortBy leF F, r ∈ rs ∧ r.kind = .file := fun r hr => hF r ((sortBy_perm leF F).mem_iff.1 hr)
  have hloop2 : renameBackWith guardExists (moveAll F t) ((sortBy leF F).map mp) = (t, none) := by
    have gF : Guards t F := g.of_mem (g.ds.sublist List.filter_sublist) (fun r hr => (hF r hr).1)
    have := renameBack_perm (K := []) gF (by simpa using (sortBy_perm leF F).symm)
      (List.pairwise_of_forall_mem_list fun x hx y hy hpre => hfl y (hS2 y hy).1 (hS2 y hy).2 x (hS2 x hx).1 hpre)
      (fun _ _ _ hk => nomatch hk)
    rw [this]
    exact congrArg (·, none) (mapTree_nil t)
  have hdm : sortDirs (dirMappings rs) = (sortBy leD D).map mp := sortM_map _ D
  have hsf : sortFiles (F.map mp) = (sortBy leF F).map mp := sortM_map _ F
  simp only [undoRenames, undoRenamesWith, hdm, hloop1, hfr, hsf, hloop2]

end UndoLemmas
