import RModel.Model.Compound
import RModel.Lemmas.CaseModelStyles
/-
  The compound matcher model (C07).  A rendered identifier body is `joinWith sep words` with `sep` one of `_`, `-` or
  nothing (`joinWith [] = concat`, the hump styles); `tailOf sep words` (every word preceded by `sep`) is the form the
  token walk of the re-join guard and the splice loop are followed on.  On a regular rendering the splice loop is
  `substAll` on the words and every guard passes; `threeBlocks` is the irregular snake_case body on which the re-join
  guard is shown to refuse.  Last, the line matcher: where its matches come from.
-/
open B CaseModel

namespace Compound

def tailOf (sep : Bytes) : List Bytes → Bytes
  | [] => []
  | t :: ts => sep ++ t ++ tailOf sep ts

theorem joinWith_eq_tailOf (sep : Bytes) : ∀ (t : Bytes) (ts : List Bytes), joinWith sep (t :: ts) = t ++ tailOf sep ts
  | t, [] => by simp [joinWith, tailOf]
  | t, u :: ts => by
    rw [joinWith_cons_cons, joinWith_eq_tailOf sep u ts]
    simp only [tailOf, List.append_assoc]

theorem joinWith_eq_drop (sep : Bytes) : ∀ (ts : List Bytes), joinWith sep ts = (tailOf sep ts).drop sep.length
  | [] => by simp [joinWith, tailOf]
  | t :: ts => by rw [joinWith_eq_tailOf, tailOf, List.append_assoc, List.drop_left]

theorem tailOf_append (sep : Bytes) : ∀ (xs ys : List Bytes), tailOf sep (xs ++ ys) = tailOf sep xs ++ tailOf sep ys
  | [], _ => rfl
  | x :: xs, ys => by simp only [List.cons_append, tailOf, tailOf_append sep xs ys, List.append_assoc]

theorem concat_eq_tailOf : ∀ (ts : List Bytes), concat ts = tailOf [] ts
  | [] => rfl
  | t :: ts => by rw [concat_cons, concat_eq_tailOf ts]; simp [tailOf]

theorem joinWith_nil (ts : List Bytes) : joinWith [] ts = concat ts := by
  rw [joinWith_eq_drop, concat_eq_tailOf]; rfl

theorem joinWith_append (d : UInt8) {xs ys : List Bytes} (hx : xs ≠ []) (hy : ys ≠ []) :
    joinWith [d] (xs ++ ys) = joinWith [d] xs ++ [d] ++ joinWith [d] ys := by
  obtain ⟨x, xs, rfl⟩ := List.exists_cons_of_ne_nil hx
  obtain ⟨y, ys, rfl⟩ := List.exists_cons_of_ne_nil hy
  simp only [List.cons_append, joinWith_eq_tailOf, tailOf_append, tailOf, List.append_assoc]

theorem restoreTrailing_alpha {rest repl : Bytes} {c : UInt8} (h : rest.getLast? = some c) (hc : isAlpha c = true) :
    restoreTrailing rest repl = repl := by
  have hne : ∀ d : UInt8, isAlpha d = false → (some c == some d) = false := fun d hd => by
    rw [beq_eq_false_iff_ne]; rintro ⟨rfl⟩; rw [hc] at hd; cases hd
  simp only [restoreTrailing, endsWith, h, hne 95 (by decide), hne 45 (by decide), hne 46 (by decide), Bool.false_and,
    Bool.false_eq_true, if_false]

theorem extractPrefix_lead {lead rest : Bytes} {c : UInt8} (hl : lead = [] ∨ lead = [95] ∨ lead = [95, 95])
    (h : rest.head? = some c) (hc : isAlpha c = true) : extractPrefix (lead ++ rest) = (lead, rest) := by
  have hne : c ≠ 95 := fun h => by rw [h] at hc; cases hc
  match rest, h with
  | _ :: r, rfl =>
    rcases hl with rfl | rfl | rfl
    · exact extractPrefix.eq_3 _ (fun _ h => hne (List.cons.inj h).1) (fun _ h => hne (List.cons.inj h).1)
    · exact extractPrefix.eq_2 _ (fun _ h => hne (List.cons.inj h).1)
    · rfl

theorem regular_ends {lead : Bytes} (hl : lead = [] ∨ lead = [95] ∨ lead = [95, 95]) (sep : Bytes) {rs : List Bytes}
    (hne0 : rs ≠ []) (ha : AlphaWords rs) (hne : ∀ r ∈ rs, r ≠ []) :
    extractPrefix (lead ++ joinWith sep rs) = (lead, joinWith sep rs) ∧
      ∀ repl, restoreTrailing (joinWith sep rs) repl = repl := by
  obtain ⟨⟨c, cs, hj, hc⟩, z, hz, hza⟩ :=
    LinePipeline.ends_join sep hne0 fun r hr => LinePipeline.ends_of_alpha (hne r hr) (ha r hr)
  exact ⟨extractPrefix_lead hl (by rw [hj]; rfl) hc, fun _ => restoreTrailing_alpha hz hza⟩

theorem gapsOk_step (sep : Bytes) (W : List (Nat × Nat)) (idx : Nat) {pre t r : Bytes} (ts : List Bytes)
    (hpre : ∀ c ∈ pre, isAlnum c = false) (hne : t ≠ []) (ht : ∀ c ∈ t, isAlnum c = true) :
    gapsOk sep W idx (pre ++ (t ++ r)) (t :: ts) =
      ((if idx == 0 then pre.isEmpty else (insideWindow W idx || pre == sep)) && gapsOk sep W (idx + 1) r ts) := by
  obtain ⟨c, cs, rfl⟩ := List.exists_cons_of_ne_nil hne
  have hp : ∀ a ∈ pre, (!isAlnum a) = true := fun a ha => by rw [hpre a ha]; rfl
  have hc : ¬ (!isAlnum c) = true := by simp [ht c (List.mem_cons_self ..)]
  rw [gapsOk, List.takeWhile_append_of_pos hp, List.dropWhile_append_of_pos hp, List.cons_append,
    List.takeWhile_cons_of_neg (p := fun a => !isAlnum a) hc, List.dropWhile_cons_of_neg (p := fun a => !isAlnum a) hc,
    List.append_nil, ← List.cons_append, List.drop_left]

/-- the token walk over a regular block of words: only the gap in front of the block is examined -/
theorem gapsOk_block (sep : Bytes) (W : List (Nat × Nat)) (hsep : ∀ c ∈ sep, isAlnum c = false) (r : Bytes)
    (ts : List Bytes) : ∀ (xs : List Bytes) (pre : Bytes) (idx : Nat), xs ≠ [] → (∀ c ∈ pre, isAlnum c = false) →
      (∀ t ∈ xs, t ≠ [] ∧ ∀ c ∈ t, isAlnum c = true) →
      gapsOk sep W idx (pre ++ (joinWith sep xs ++ r)) (xs ++ ts) =
        ((if idx == 0 then pre.isEmpty else (insideWindow W idx || pre == sep)) && gapsOk sep W (idx + xs.length) r ts)
  | [], _, _, hne, _, _ => absurd rfl hne
  | [x], pre, idx, _, hpre, h => by
    have hx := h x (List.mem_cons_self ..)
    rw [joinWith, List.cons_append, List.nil_append, gapsOk_step sep W idx ts hpre hx.1 hx.2]
    rfl
  | x :: y :: ys, pre, idx, _, hpre, h => by
    have hx := h x (List.mem_cons_self ..)
    rw [joinWith_cons_cons, List.append_assoc, List.append_assoc, List.cons_append,
      gapsOk_step sep W idx _ hpre hx.1 hx.2,
      gapsOk_block sep W hsep r ts (y :: ys) sep (idx + 1) (by simp) hsep (fun t ht => h t (List.mem_cons_of_mem _ ht))]
    simp only [Nat.succ_ne_zero, beq_self_eq_true, Bool.or_true, Bool.true_and, List.length_cons, beq_iff_eq, if_false]
    congr 2
    omega

theorem gapsOk_regular (sep : Bytes) (W : List (Nat × Nat)) (hsep : ∀ c ∈ sep, isAlnum c = false)
    {ts : List Bytes} (hne : ts ≠ []) (h : ∀ x ∈ ts, x ≠ [] ∧ ∀ c ∈ x, isAlnum c = true) :
    gapsOk sep W 0 (joinWith sep ts) ts = true := by
  have := gapsOk_block sep W hsep [] [] ts [] 0 hne (by simp) h
  simp only [List.nil_append, List.append_nil] at this
  rw [this]
  simp [gapsOk]

theorem contains_regular {sep : Bytes} (hsep : sep = [95] ∨ sep = [45] ∨ sep = [])
    {rs : List Bytes} (h2 : 2 ≤ rs.length) (ha : AlphaWords rs) {c : UInt8} (hc : isAlpha c = false) :
    contains (joinWith sep rs) c = contains sep c := by
  rcases hsep with rfl | rfl | rfl
  · rw [contains_joinWith hc h2 ha]; simp [contains]
  · rw [contains_joinWith hc h2 ha]; simp [contains]
  · rw [joinWith_nil, contains_concat hc ha]; rfl

section oneSeparator
/- `sep` (`_`, `-`, or nothing) is the only delimiter kind of `rest`: then the mixed-separator shortcut is off; the
   replacement tokens are joined with `sep` and the re-join guard walks `rest` with `sep`, for which an identifier without
   delimiters has to be PascalCase. -/
variable {sep rest : Bytes} (hsep : sep = [95] ∨ sep = [45] ∨ sep = [])
  (hflag : ∀ c, isAlpha c = false → contains rest c = contains sep c)
include hsep hflag

theorem shortcutCond_oneSep (old : Bytes) : shortcutCond rest old = false := by
  simp only [shortcutCond, hflag 95 (by decide), hflag 45 (by decide), hflag 46 (by decide)]
  rcases hsep with rfl | rfl | rfl <;> rfl

variable {st : Style} (hst : sep = [] → st = .pascal)
include hst

theorem joinTokens_oneSep (A : Acr) (toks : List Bytes) : joinTokens A rest toks st = joinWith sep toks := by
  simp only [joinTokens, hflag 95 (by decide), hflag 45 (by decide), hflag 46 (by decide), hflag 32 (by decide)]
  rcases hsep with rfl | rfl | rfl
  · rfl
  · rfl
  · cases hst rfl
    exact (joinWith_nil toks).symm

theorem survivesRejoin_oneSep (toks : List Bytes) (W : List (Nat × Nat)) :
    survivesRejoin rest toks W st = gapsOk sep W 0 rest toks := by
  simp only [survivesRejoin, hflag 95 (by decide), hflag 45 (by decide), hflag 46 (by decide), hflag 32 (by decide)]
  rcases hsep with rfl | rfl | rfl
  · rfl
  · rfl
  · cases hst rfl
    rfl

end oneSeparator

def HasWindow (toks pat : List Bytes) : Prop :=
  ∃ l w r, toks = l ++ w ++ r ∧ tokensMatch w pat = true

theorem hasWindow_cons {t : Bytes} {ts pat : List Bytes} (h : HasWindow ts pat) : HasWindow (t :: ts) pat := by
  obtain ⟨l, w, r, rfl, hm⟩ := h
  exact ⟨t :: l, w, r, by simp, hm⟩

theorem spliceAll_count (A : Acr) (pat nt : List Bytes) (ident rest : Bytes) :
    ∀ (ts : List Bytes) (k : Nat), (spliceAll A pat nt ident rest k ts).2 ≠ 0 → HasWindow ts pat
  | [], k, h => by cases k <;> simp [spliceAll] at h
  | t :: ts, k + 1, h => hasWindow_cons (spliceAll_count A pat nt ident rest ts k (by rwa [spliceAll] at h))
  | t :: ts, 0, h => by
    rw [spliceAll] at h
    by_cases hm : tokensMatch ((t :: ts).take pat.length) pat = true
    · exact ⟨[], (t :: ts).take pat.length, (t :: ts).drop pat.length, by simp, hm⟩
    · simp only [hm] at h
      exact hasWindow_cons (spliceAll_count A pat nt ident rest ts 0 h)

theorem shortcutCond_shape {rest old : Bytes} (h : shortcutCond rest old = true) :
    ∃ c tail, rest = old ++ c :: tail ∧ (c = 95 ∨ c = 45 ∨ c = 46) := by
  simp only [shortcutCond, Bool.and_eq_true, decide_eq_true_eq] at h
  obtain ⟨⟨⟨_, hp⟩, _⟩, hc⟩ := h
  have hr := List.prefix_iff_eq_append.mp (List.isPrefixOf_iff_prefix.mp hp)
  split at hc
  · rename_i c tl hd
    exact ⟨c, tl, by rw [← hd, hr], by simpa only [Bool.or_eq_true, beq_iff_eq, or_assoc] using hc⟩
  · cases hc

/-- when `findCompoundG` answers, and what: the mixed-separator shortcut, or the main path with every guard passed -/
theorem findCompoundG_eq_some_iff {A : Acr} {g : Bool} {ident old new pre rest : Bytes} {styles : List Style}
    {m : CMatch} (hx : extractPrefix ident = (pre, rest)) :
    findCompoundG A g ident old new styles = some m ↔
      tokensMatch (parse A rest) (parse A old) = false ∧
      (shortcutCond rest old = true ∧ m = ⟨ident, pre ++ new ++ rest.drop old.length, .snake⟩ ∨
       shortcutCond rest old = false ∧ (parse A old).length ≤ (parse A rest).length ∧
        parse A old ≠ [] ∧ parse A rest ≠ [] ∧ parse A new ≠ [] ∧
        (spliceAll A (parse A old) (parse A new) ident rest 0 (parse A rest)).2 ≠ 0 ∧
        ∃ st, inferStyle A rest = some st ∧ st ∈ styles ∧
          (g = true →
            survivesRejoin rest (parse A rest) (matchedWindows (parse A old) 0 0 (parse A rest)) st = true) ∧
          m = ⟨ident, pre ++ restoreTrailing rest (joinTokens A rest
            (spliceAll A (parse A old) (parse A new) ident rest 0 (parse A rest)).1 st), st⟩) := by
  unfold findCompoundG
  simp only [hx]
  -- with the intermediate values as variables the guards are a chain of `if c then none else _`, each of which
  -- `Option.ite_none_left_eq_some` turns into a conjunct `¬ c`
  generalize spliceAll A (parse A old) (parse A new) ident rest 0 (parse A rest) = r
  generalize matchedWindows (parse A old) 0 0 (parse A rest) = W
  generalize parse A rest = idToks
  generalize parse A old = oldToks
  generalize parse A new = newToks
  generalize inferStyle A rest = inf
  cases tokensMatch idToks oldToks
  · cases shortcutCond rest old
    · simp only [Bool.false_eq_true, if_false, true_and, false_and, false_or, gt_iff_lt, decide_eq_true_eq,
        Option.ite_none_left_eq_some, Nat.not_lt, Bool.or_eq_true, List.isEmpty_iff, not_or, beq_iff_eq, and_assoc]
      cases inf with
      | none => simp only [reduceCtorEq, false_and, and_false, exists_false]
      | some st =>
        simp only [Option.ite_none_left_eq_some, Option.some.injEq, Bool.and_eq_true, List.contains_eq_mem,
          decide_eq_false_iff_not, Decidable.not_not, not_and, Bool.not_eq_eq_eq_not, Bool.not_true,
          Bool.not_eq_false, exists_eq_left', eq_comm (b := m), ne_eq]
    · simp only [Bool.false_eq_true, if_true, if_false, true_and, false_and, or_false, Option.some.injEq, eq_comm]
  · simp only [if_true, Bool.true_eq_false, false_and, reduceCtorEq]

theorem findCompoundG_sound {A : Acr} {g : Bool} {ident old new : Bytes} {styles : List Style} {m : CMatch}
    (h : findCompoundG A g ident old new styles = some m) :
    m.full = ident ∧
    (shortcutCond (extractPrefix ident).2 old = true ∨
     HasWindow (parse A (extractPrefix ident).2) (parse A old)) := by
  rcases ((findCompoundG_eq_some_iff rfl).mp h).2 with ⟨hs, rfl⟩ | ⟨_, _, _, _, _, hcnt, _, _, _, _, rfl⟩
  · exact ⟨rfl, Or.inl hs⟩
  · exact ⟨rfl, Or.inr (spliceAll_count A _ _ _ _ _ 0 hcnt)⟩

/-- specification: replace every non-overlapping occurrence of the word sequence `pat`, left to right -/
def substAll (pat rep : List Bytes) : Nat → List Bytes → List Bytes
  | _, [] => []
  | k + 1, _ :: ws => substAll pat rep k ws
  | 0, w :: ws =>
    if (w :: ws).take pat.length = pat then rep ++ substAll pat rep (pat.length - 1) ws
    else w :: substAll pat rep 0 ws

/-- number of occurrences replaced by `substAll` -/
def occCount (pat : List Bytes) : Nat → List Bytes → Nat
  | _, [] => 0
  | k + 1, _ :: ws => occCount pat k ws
  | 0, w :: ws =>
    if (w :: ws).take pat.length = pat then occCount pat (pat.length - 1) ws + 1
    else occCount pat 0 ws

theorem tokensMatch_eq : ∀ (ts ps : List Bytes), tokensMatch ts ps = decide (ts.map lower = ps.map lower)
  | [], [] => rfl
  | [], _ :: _ => rfl
  | _ :: _, [] => rfl
  | t :: ts, p :: ps => by
    simp only [tokensMatch, tokensMatch_eq ts ps, List.map_cons, List.cons.injEq, Bool.decide_and, Bool.beq_eq_decide_eq]

theorem tokensMatch_map {f : Bytes → Bytes} {ws pat : List Bytes} (hw : ∀ w ∈ ws, lower (f w) = w)
    (hp : ∀ p ∈ pat, lower p = p) : tokensMatch (ws.map f) pat = decide (ws = pat) := by
  rw [tokensMatch_eq, List.map_map, List.map_id_of (f := lower ∘ f) hw, List.map_id_of hp]

theorem tokensMatch_lower {w pat : List Bytes} (hw : ∀ x ∈ w, lower x = x) (hp : ∀ p ∈ pat, lower p = p) :
    tokensMatch w pat = decide (w = pat) := by
  rw [tokensMatch_eq, List.map_id_of hw, List.map_id_of hp]

/-- On words rendered by `f` (with `lower ∘ f = id`) the loop replaces exactly the occurrences of `pat`; a matched
    window is `pat.map f`, so only its styling matters.  Stated up to `tailOf sep`, because in the hump styles the
    styled replacement is one token. -/
theorem spliceAll_map (A : Acr) (sep : Bytes) (f : Bytes → Bytes) (pat rep : List Bytes) (ident rest : Bytes)
    (hpat : ∀ p ∈ pat, lower p = p)
    (hsty : tailOf sep (styledTokens A (finalStyle A (pat.map f) ident rest) rep (pat.map f)) = tailOf sep (rep.map f)) :
    ∀ (ws : List Bytes) (k : Nat), (∀ w ∈ ws, lower (f w) = w) →
      tailOf sep (spliceAll A pat rep ident rest k (ws.map f)).1 = tailOf sep ((substAll pat rep k ws).map f) ∧
      (spliceAll A pat rep ident rest k (ws.map f)).2 = occCount pat k ws := by
  intro ws
  induction ws with
  | nil => intro k _; cases k <;> simp [spliceAll, substAll, occCount]
  | cons w ws ih =>
    intro k hw
    have hws : ∀ x ∈ ws, lower (f x) = x := fun x hx => hw x (List.mem_cons_of_mem _ hx)
    cases k with
    | succ k => simp only [List.map_cons, spliceAll, substAll, occCount]; exact ih k hws
    | zero =>
      have hm : tokensMatch (((w :: ws).map f).take pat.length) pat = decide ((w :: ws).take pat.length = pat) := by
        rw [← List.map_take]
        exact tokensMatch_map (fun x hx => hw x (List.mem_of_mem_take hx)) hpat
      rw [List.map_cons, spliceAll, ← List.map_cons, hm, substAll, occCount]
      by_cases heq : (w :: ws).take pat.length = pat
      · simp only [heq, decide_true, if_true, ← List.map_take, hsty, List.map_append, tailOf_append, (ih _ hws).1,
          (ih _ hws).2, and_self]
      · simp only [heq, decide_false, Bool.false_eq_true, if_false, List.map_cons, tailOf, (ih 0 hws).1,
          (ih 0 hws).2, and_self]

theorem mem_substAll {pat rep : List Bytes} {x : Bytes} : ∀ {ws : List Bytes} {k : Nat},
    x ∈ substAll pat rep k ws → x ∈ ws ∨ x ∈ rep
  | [], k, h => by cases k <;> simp [substAll] at h
  | w :: ws, k + 1, h => by
    simp only [substAll] at h
    exact (mem_substAll h).imp_left (List.mem_cons_of_mem _)
  | w :: ws, 0, h => by
    simp only [substAll] at h
    split at h
    · exact (List.mem_append.mp h).elim Or.inr (fun h => (mem_substAll h).imp_left (List.mem_cons_of_mem _))
    · exact (List.mem_cons.mp h).elim (fun h => Or.inl (List.mem_cons.mpr (Or.inl h)))
        (fun h => (mem_substAll h).imp_left (List.mem_cons_of_mem _))

theorem occCount_le_length {pat : List Bytes} : ∀ {ws : List Bytes} {k : Nat}, 0 < occCount pat k ws → pat.length ≤ ws.length + k
  | [], k, h => by cases k <;> simp [occCount] at h
  | w :: ws, k + 1, h => by
    simp only [occCount] at h
    have := occCount_le_length h
    simp only [List.length_cons]; omega
  | w :: ws, 0, h => by
    simp only [occCount] at h
    split at h
    · rename_i heq
      have : pat.length = ((w :: ws).take pat.length).length := by rw [heq]
      rw [List.length_take] at this
      omega
    · have := occCount_le_length h
      simp only [List.length_cons]; omega

theorem finalStyle_lower (A : Acr) {w' : List Bytes} {ident rest : Bytes} {st : Style}
    (hw : ∀ t ∈ w', LowerWord t) (h2 : 2 ≤ w'.length) (hdet : detectStyle A rest = some st)
    (hnt : (some st == some Style.train) = false) : finalStyle A w' ident rest = some st := by
  match w', h2, hw with
  | a :: b :: c, _, hw =>
    have ha : isTitleWord a = false := isTitleWord_lower (hw a (by simp)).2
    have hall : (a :: b :: c).all (fun t => t.all isLower) = true := by
      rw [List.all_eq_true]; intro t ht; rw [List.all_eq_true]; exact (hw t ht).2
    simp only [finalStyle, hdet, hnt, Bool.false_eq_true, if_false, portionStyle, List.all_cons, ha, Bool.false_and,
      if_false]
    simp only [List.all_cons] at hall
    simp only [hall, if_true]

theorem finalStyle_upper (A : Acr) {ws : List Bytes} {ident rest : Bytes} {st : Style} (hw : Words ws)
    (h2 : 2 ≤ ws.length) (hdet : detectStyle A rest = some st) (hnt : (some st == some Style.train) = false) :
    finalStyle A (ws.map upper) ident rest = some st := by
  match ws, h2, hw with
  | a :: b :: c, _, hw =>
  match a, (hw a (List.mem_cons_self ..)).1, hw with
  | u1 :: u2 :: r, _, hw =>
    have hu := fun x hx => upper_not_lower (toUpper_of_lower ((hw _ (List.mem_cons_self ..)).2 x hx))
    have ha : isTitleWord (upper (u1 :: u2 :: r)) = false := by
      simp only [upper, List.map_cons, isTitleWord, List.all_cons, hu u2 (by simp), Bool.false_and, Bool.and_false]
    have hlo : (upper (u1 :: u2 :: r)).all isLower = false := by
      simp only [upper, List.map_cons, List.all_cons, hu u1 (by simp), Bool.false_and]
    have hcat : detectStyle A (concat ((_ : List Bytes).map upper)) = none :=
      detect_flat A hw.lowerWords (st := .upperFlat) (by decide)
    simp only [List.map_cons] at hcat
    simp only [finalStyle, hdet, hnt, Bool.false_eq_true, if_false, portionStyle, List.map_cons, List.all_cons, ha, hlo,
      Bool.false_and, if_false, hcat]

theorem finalStyle_caps (A : Acr) {w' : List Bytes} {ident rest : Bytes} (hw : ∀ t ∈ w', IsCap t)
    (h2 : 2 ≤ w'.length) (hdet : detectStyle A rest = some .pascal) (hsp : contains ident 32 = false) :
    finalStyle A w' ident rest = some .pascal := by
  match w', h2, hw with
  | a :: b :: c, _, hw =>
    have hall : (a :: b :: c).all isTitleWord = true := by
      rw [List.all_eq_true]; exact fun t ht => isTitleWord_cap (hw t ht)
    simp only [finalStyle, hdet, portionStyle, hall, hsp, Bool.and_false, Bool.false_eq_true, if_false, if_true]
    rfl

theorem humpJoin_pascal : ∀ (rep : List Bytes) (i : Nat), LowerWords rep →
    humpJoin false i rep = concat (rep.map capitalizeFirst)
  | [], _, _ => rfl
  | r :: rep, i, h => by
    obtain ⟨c, cs, rfl⟩ := List.exists_cons_of_ne_nil (h r (List.mem_cons_self ..)).1
    simp only [humpJoin, Bool.false_and, Bool.false_eq_true, if_false, List.map_cons, concat_cons,
      capitalizeFirst_lower_cons (h _ (List.mem_cons_self ..)).2, humpJoin_pascal rep (i + 1) h.tail]
    rfl

theorem alpha_of_lower_eq {r w : Bytes} (hw : LowerWord w) (h : lower r = w) : r ≠ [] ∧ ∀ c ∈ r, isAlpha c = true := by
  subst h
  refine ⟨fun h => hw.1 (by rw [h]; rfl), fun c hc => ?_⟩
  have hl := hw.2 (toLower c) (List.mem_map_of_mem hc)
  cases hu : isUpper c with
  | true => exact upper_alpha hu
  | false => rw [toLower_id hu] at hl; exact lower_alpha hl

/-- Locality on a regular rendering: an identifier `lead ++ joinWith sep (ws.map f)` (separator `_`, `-`, or none for
    PascalCase; `f` the one casing of all the words, which is why camelCase, whose first word is cased differently, is not
    among them) that contains the search words is rewritten to the same rendering of the words with the occurrences
    replaced. -/
theorem findCompound_regular (A : Acr) {sep : Bytes} {st : Style}
    (hsep : sep = [95] ∨ sep = [45] ∨ sep = []) (hst : sep = [] → st = .pascal) (f : Bytes → Bytes)
    {lead : Bytes} {ws pat rep : List Bytes} {old new : Bytes} {styles : List Style}
    (hlead : lead = [] ∨ lead = [95] ∨ lead = [95, 95])
    (hparse : parse A (joinWith sep (ws.map f)) = ws.map f)
    (hold : parse A old = pat) (hnew : parse A new = rep)
    (hws : LowerWords ws) (hf : ∀ w ∈ ws, lower (f w) = w) (hpat : ∀ p ∈ pat, lower p = p)
    (hdet : detectStyle A (joinWith sep (ws.map f)) = some st)
    (hsty : tailOf sep (styledTokens A (finalStyle A (pat.map f) (lead ++ joinWith sep (ws.map f))
      (joinWith sep (ws.map f))) rep (pat.map f)) = tailOf sep (rep.map f))
    (h2 : 2 ≤ ws.length) (hpne : pat ≠ []) (hrne : rep ≠ []) (hne : ws ≠ pat) (hocc : 0 < occCount pat 0 ws)
    (hmem : st ∈ styles) :
    findCompound A (lead ++ joinWith sep (ws.map f)) old new styles =
      some ⟨lead ++ joinWith sep (ws.map f), lead ++ joinWith sep ((substAll pat rep 0 ws).map f), st⟩ := by
  have hlen : pat.length ≤ ws.length := by have := occCount_le_length hocc; omega
  have h2 : 2 ≤ (ws.map f).length := by rw [List.length_map]; exact h2
  have hne0 : ws.map f ≠ [] := List.ne_nil_of_length_pos (by omega)
  have hr : ∀ r ∈ ws.map f, r ≠ [] ∧ ∀ c ∈ r, isAlpha c = true := fun r hr => by
    obtain ⟨w, hw, rfl⟩ := List.mem_map.mp hr
    exact alpha_of_lower_eq (hws w hw) (hf w hw)
  have halpha : AlphaWords (ws.map f) := fun r hr' => (hr r hr').2
  have hflag := fun c hc => contains_regular hsep h2 halpha (c := c) hc
  obtain ⟨hx, htrail⟩ := regular_ends hlead sep hne0 halpha (fun r hr' => (hr r hr').1)
  obtain ⟨hsp, hcnt⟩ := spliceAll_map A sep f pat rep _ _ hpat hsty ws 0 hf
  have hj := congrArg (List.drop sep.length) hsp
  rw [← joinWith_eq_drop, ← joinWith_eq_drop] at hj
  rw [findCompound, findCompoundG_eq_some_iff hx, hparse, hold, hnew, tokensMatch_map hf hpat, hcnt]
  refine ⟨decide_eq_false hne, Or.inr ⟨shortcutCond_oneSep hsep hflag old, by rw [List.length_map]; exact hlen,
    hpne, hne0, hrne, by omega, st, by simp only [inferStyle, hdet], hmem, fun _ => ?_, ?_⟩⟩
  · rw [survivesRejoin_oneSep hsep hflag hst]
    exact gapsOk_regular sep _ (by rcases hsep with rfl | rfl | rfl <;> decide) hne0
      (fun r hr' => ⟨(hr r hr').1, fun c hc => by simp only [isAlnum, (hr r hr').2 c hc, Bool.true_or]⟩)
  · rw [htrail, joinTokens_oneSep hsep hflag hst, hj]

theorem substAll_skip (pat rep : List Bytes) : ∀ (k : Nat) (ws : List Bytes),
    substAll pat rep k ws = substAll pat rep 0 (ws.drop k) ∧ occCount pat k ws = occCount pat 0 (ws.drop k)
  | 0, _ => ⟨rfl, rfl⟩
  | k + 1, [] => by simp [substAll, occCount]
  | k + 1, _ :: ws => by simp only [substAll, occCount, List.drop_succ_cons]; exact substAll_skip pat rep k ws

theorem occCount_cons_eq_zero {pat : List Bytes} {w : Bytes} {ws : List Bytes} (h : occCount pat 0 (w :: ws) = 0) :
    (w :: ws).take pat.length ≠ pat ∧ occCount pat 0 ws = 0 := by
  rw [occCount] at h
  split at h
  · exact absurd h (by omega)
  · exact ⟨‹_›, h⟩

theorem substAll_none (pat rep : List Bytes) : ∀ (ws : List Bytes), occCount pat 0 ws = 0 → substAll pat rep 0 ws = ws
  | [], _ => by simp [substAll]
  | w :: ws, h => by
    obtain ⟨hn, h⟩ := occCount_cons_eq_zero h
    simp only [substAll, hn, if_false, substAll_none pat rep ws h]

/-- the term occurs exactly once: no window starting inside the prefix words matches, none inside the suffix words -/
def OccursOnce (pre pat suf : List Bytes) : Prop :=
  (∀ i, i < pre.length → ((pre ++ pat ++ suf).drop i).take pat.length ≠ pat) ∧ occCount pat 0 suf = 0

theorem OccursOnce.tail {a : Bytes} {pre pat suf : List Bytes} (h : OccursOnce (a :: pre) pat suf) :
    (a :: (pre ++ pat ++ suf)).take pat.length ≠ pat ∧ OccursOnce pre pat suf := by
  refine ⟨by simpa using h.1 0 (by simp), fun i hi => ?_, h.2⟩
  have := h.1 (i + 1) (by simp only [List.length_cons]; omega)
  simpa only [List.cons_append, List.drop_succ_cons] using this

theorem substAll_once {pat rep : List Bytes} (hp : pat ≠ []) : ∀ (pre suf : List Bytes), OccursOnce pre pat suf →
    substAll pat rep 0 (pre ++ pat ++ suf) = pre ++ rep ++ suf ∧ occCount pat 0 (pre ++ pat ++ suf) = 1
  | [], suf, h => by
    obtain ⟨p, ps, rfl⟩ := List.exists_cons_of_ne_nil hp
    have hs := substAll_skip (p :: ps) rep ps.length (ps ++ suf)
    rw [List.drop_left] at hs
    simp only [List.nil_append, List.cons_append, substAll, occCount, List.length_cons, List.take_succ_cons, List.take_left,
      if_true, Nat.add_sub_cancel, hs.1, hs.2, substAll_none _ rep suf h.2, h.2, and_self]
  | a :: pre, suf, h => by
    obtain ⟨h0, ht⟩ := h.tail
    have ih := substAll_once (rep := rep) hp pre suf ht
    simp only [List.cons_append, substAll, occCount, h0, if_false]
    exact ⟨by rw [ih.1], ih.2⟩

theorem OccursOnce.shape {pre pat suf : List Bytes} (rep : List Bytes) (h : OccursOnce pre pat suf) (hp : pat ≠ [])
    (haff : pre ++ suf ≠ []) :
    pre ++ pat ++ suf ≠ pat ∧ 0 < occCount pat 0 (pre ++ pat ++ suf) ∧
      substAll pat rep 0 (pre ++ pat ++ suf) = pre ++ rep ++ suf := by
  obtain ⟨hs, ho⟩ := substAll_once (rep := rep) hp pre suf h
  refine ⟨fun he => haff (List.eq_nil_of_length_eq_zero ?_), by rw [ho]; decide, hs⟩
  have := congrArg List.length he
  simp only [List.length_append] at this ⊢
  omega

theorem matchedWindows_skip (pat : List Bytes) : ∀ (k idx : Nat) (ws : List Bytes),
    matchedWindows pat k idx ws = matchedWindows pat 0 (idx + k) (ws.drop k)
  | 0, _, _ => rfl
  | k + 1, _, [] => by simp [matchedWindows]
  | k + 1, idx, _ :: ws => by rw [matchedWindows, matchedWindows_skip pat k, List.drop_succ_cons, Nat.add_right_comm]; rfl

theorem matchedWindows_none {pat : List Bytes} (hp : ∀ p ∈ pat, lower p = p) : ∀ (ws : List Bytes) (idx : Nat),
    (∀ w ∈ ws, lower w = w) → occCount pat 0 ws = 0 → matchedWindows pat 0 idx ws = []
  | [], _, _, _ => by simp [matchedWindows]
  | w :: ws, idx, hw, h => by
    obtain ⟨hn, h⟩ := occCount_cons_eq_zero h
    simp only [matchedWindows, tokensMatch_lower (fun x hx => hw x (List.mem_of_mem_take hx)) hp, hn, decide_false,
      Bool.false_eq_true, if_false]
    exact matchedWindows_none hp ws (idx + 1) (fun x hx => hw x (List.mem_cons_of_mem _ hx)) h

theorem matchedWindows_once {pat : List Bytes} (hpne : pat ≠ []) : ∀ (pre suf : List Bytes) (idx : Nat),
    (∀ w ∈ pre ++ pat ++ suf, lower w = w) → OccursOnce pre pat suf →
    matchedWindows pat 0 idx (pre ++ pat ++ suf) = [(idx + pre.length, idx + pre.length + pat.length)]
  | [], suf, idx, hw, h => by
    obtain ⟨p, ps, rfl⟩ := List.exists_cons_of_ne_nil hpne
    have hp : ∀ x ∈ p :: ps, lower x = x := fun x hx =>
      hw x (List.mem_append_left _ (List.mem_append_right _ hx))
    have hs := matchedWindows_skip (p :: ps) ps.length (idx + 1) (ps ++ suf)
    rw [List.drop_left, matchedWindows_none hp suf _ (fun x hx => hw x (by simp [hx])) h.2] at hs
    simp only [List.nil_append, List.cons_append, matchedWindows, List.length_cons, List.take_succ_cons, List.take_left,
      tokensMatch_lower hp hp, decide_true, if_true, Nat.add_sub_cancel, hs, List.length_nil, Nat.add_zero]
  | a :: pre, suf, idx, hw, h => by
    obtain ⟨h0, ht⟩ := h.tail
    have hm := tokensMatch_lower (w := (a :: (pre ++ pat ++ suf)).take pat.length) (pat := pat)
      (fun x hx => hw x (List.mem_of_mem_take hx)) (fun x hx => hw x (by simp [hx]))
    simp only [List.cons_append, matchedWindows, hm, h0, decide_false, Bool.false_eq_true, if_false, List.length_cons,
      matchedWindows_once hpne pre suf (idx + 1) (fun x hx => hw x (List.mem_cons_of_mem _ hx)) ht]
    congr 2 <;> omega

def threeBlocks (xs ys zs : List Bytes) (n1 n2 : Nat) : Bytes :=
  joinWith [95] xs ++ List.replicate n1 95 ++ joinWith [95] ys ++ List.replicate n2 95 ++ joinWith [95] zs

theorem parse_threeBlocks {A : Acr} {xs ys zs : List Bytes} (hx : xs ≠ []) (hy : ys ≠ [])
    (hg : ∀ r ∈ xs ++ ys ++ zs, Good A r) {n1 n2 : Nat} (h1 : 1 ≤ n1) (h2 : 1 ≤ n2) :
    parse A (threeBlocks xs ys zs n1 n2) = xs ++ ys ++ zs := by
  obtain ⟨k1, rfl⟩ := Nat.exists_eq_add_of_le' h1
  obtain ⟨k2, rfl⟩ := Nat.exists_eq_add_of_le' h2
  have hd : isDelim 95 = true := by decide
  simp only [parse, threeBlocks, List.replicate_succ, List.append_assoc, List.cons_append]
  rw [tok_join_then hd xs hx (fun r hr => hg r (by simp [hr])), tok_delims hd,
    tok_join_then hd ys hy (fun r hr => hg r (by simp [hr])), tok_delims hd,
    tok_join hd zs _ _ (fun r hr => hg r (by simp [hr])), List.nil_append, List.append_assoc]

theorem extractPrefix_threeBlocks {lead : Bytes} (hl : lead = [] ∨ lead = [95] ∨ lead = [95, 95]) {xs : List Bytes}
    (hx : xs ≠ []) (hw : LowerWords xs) (ys zs : List Bytes) (n1 n2 : Nat) :
    extractPrefix (lead ++ threeBlocks xs ys zs n1 n2) = (lead, threeBlocks xs ys zs n1 n2) := by
  obtain ⟨x, xs, rfl⟩ := List.exists_cons_of_ne_nil hx
  obtain ⟨c, cs, rfl⟩ := List.exists_cons_of_ne_nil (hw x (List.mem_cons_self ..)).1
  refine extractPrefix_lead hl (c := c) ?_ (lower_alpha ((hw _ (List.mem_cons_self ..)).2 c (List.mem_cons_self ..)))
  rw [threeBlocks, joinWith_eq_tailOf]
  rfl

theorem contains_threeBlocks {c : UInt8} (hc : isAlpha c = false) {xs ys zs : List Bytes}
    (ha : AlphaWords (xs ++ ys ++ zs)) {n1 : Nat} (h1 : 1 ≤ n1) (n2 : Nat) :
    contains (threeBlocks xs ys zs n1 n2) c = contains [95] c := by
  cases h95 : (95 : UInt8) == c with
  | true =>
    obtain ⟨k, rfl⟩ := Nat.exists_eq_add_of_le' h1
    simp [threeBlocks, contains, List.replicate_succ, h95]
  | false =>
    have hw : ∀ {l : List Bytes}, (∀ r ∈ l, r ∈ xs ++ ys ++ zs) → (joinWith [95] l).any (· == c) = false := by
      intro l hl
      rw [any_joinWith_of_not_sep (· == c) h95]
      exact any_any_false (fun r hr x hx => alpha_ne_sep hc ha r (hl r hr) x hx)
    simp only [threeBlocks, contains, List.any_append, List.any_replicate, List.any_cons, List.any_nil, h95,
      hw (l := xs) (fun r hr => by simp [hr]), hw (l := ys) (fun r hr => by simp [hr]),
      hw (l := zs) (fun r hr => by simp [hr]), ite_self, Bool.or_self]

theorem gapsOk_threeBlocks (W : List (Nat × Nat)) {xs ys zs : List Bytes} (hx : xs ≠ []) (hy : ys ≠ []) (hz : zs ≠ [])
    (h : ∀ t ∈ xs ++ ys ++ zs, t ≠ [] ∧ ∀ c ∈ t, isAlnum c = true) (n1 n2 : Nat) :
    gapsOk [95] W 0 (threeBlocks xs ys zs n1 n2) (xs ++ ys ++ zs) =
      ((insideWindow W xs.length || n1 == 1) && (insideWindow W (xs.length + ys.length) || n2 == 1)) := by
  have hrep : ∀ n, ∀ c ∈ List.replicate n (95 : UInt8), isAlnum c = false := fun n c hc => by
    rw [List.eq_of_mem_replicate hc]; rfl
  have hbeq : ∀ n, (List.replicate n (95 : UInt8) == [95]) = (n == 1)
    | 0 => rfl
    | 1 => rfl
    | n + 2 => rfl
  -- one step of the walk per block: `xs` from the start, then twice a run of `_` and a block
  have h0 := gapsOk_block [95] W (hrep 1) (List.replicate n1 95 ++ (joinWith [95] ys ++ (List.replicate n2 95 ++ joinWith [95] zs)))
    (ys ++ zs) xs [] 0 hx (fun _ hc => nomatch hc) fun t ht => h t (List.mem_append_left _ (List.mem_append_left _ ht))
  have h1 := gapsOk_block [95] W (hrep 1) (List.replicate n2 95 ++ joinWith [95] zs) zs ys _ xs.length hy (hrep n1)
    fun t ht => h t (List.mem_append_left _ (List.mem_append_right _ ht))
  have h2 := gapsOk_block [95] W (hrep 1) [] [] zs _ (xs.length + ys.length) hz (hrep n2) fun t ht => h t (List.mem_append_right _ ht)
  rw [List.nil_append, Nat.zero_add] at h0
  rw [List.append_nil, List.append_nil] at h2
  have hpos := List.length_pos_iff.mpr hx
  have hx0 : (xs.length == 0) = false := beq_false_of_ne (Nat.ne_of_gt hpos)
  have hxy0 : (xs.length + ys.length == 0) = false := beq_false_of_ne (Nat.ne_of_gt (Nat.add_pos_left hpos _))
  rw [threeBlocks, List.append_assoc, List.append_assoc, List.append_assoc, List.append_assoc xs, h0, h1, h2, hx0, hxy0,
    hbeq, hbeq]
  simp only [gapsOk, BEq.rfl, ↓reduceIte, List.isEmpty_nil, Bool.true_and, Bool.false_eq_true, Bool.true_or, Bool.and_true]

theorem mem_insertM {m x : M} {l : List M} : x ∈ insertM m l ↔ x = m ∨ x ∈ l :=
  List.mem_insertion (f := insertM m) rfl fun y ys => by
    rw [insertM]
    split
    · exact .inr rfl
    · exact .inl rfl

theorem mem_sortM {x : M} : ∀ {l : List M}, x ∈ sortM l ↔ x ∈ l
  | [] => by simp [sortM]
  | y :: l => by
    have ih := mem_sortM (x := x) (l := l)
    simp only [sortM, List.foldr_cons] at ih ⊢
    rw [mem_insertM, ih, List.mem_cons]

theorem mem_setAt {x m : M} : ∀ {l : List M} {i : Nat}, x ∈ setAt l i m → x = m ∨ x ∈ l
  | [], _, h => by simp [setAt] at h
  | y :: l, 0, h => (List.mem_cons.mp h).imp_right (List.mem_cons_of_mem _)
  | y :: l, i + 1, h => by
    rcases List.mem_cons.mp h with rfl | h
    · exact Or.inr (List.mem_cons_self ..)
    · exact (mem_setAt h).imp_right (List.mem_cons_of_mem _)

theorem mem_resolveStep {p : List (Nat × Nat)} {final : List M} {cand x : M}
    (h : x ∈ resolveStep p final cand) : x = cand ∨ x ∈ final := by
  unfold resolveStep at h
  simp only [] at h
  split at h
  · exact (List.mem_append.mp h).symm.imp_left List.mem_singleton.mp
  · split at h
    · exact Or.inr h
    · exact (List.mem_ite h).elim mem_setAt Or.inr

theorem mem_foldl_resolve {p : List (Nat × Nat)} {x : M} : ∀ {l init : List M},
    x ∈ l.foldl (resolveStep p) init → x ∈ init ∨ x ∈ l
  | [], init, h => Or.inl h
  | c :: l, init, h => by
    rcases mem_foldl_resolve (l := l) h with h | h
    · exact (mem_resolveStep h).symm.imp_right (fun h => List.mem_cons.mpr (Or.inl h))
    · exact Or.inr (List.mem_cons_of_mem _ h)

theorem mem_exactSpansOf {A : Acr} {content search : Bytes} {variants : List Bytes} {styles : List Style} {s e : Nat}
    (h : (s, e) ∈ exactSpansOf A content search variants styles) :
    (s, e) ∈ scanExact variants 0 0 content ∧
      isBoundary (content.take s) ((content.drop s).take (e - s)) (content.drop e) = true := by
  unfold exactSpansOf at h
  rcases List.mem_ite h with h | h
  · cases h
  · exact List.mem_filter.mp h

theorem compoundOf_eq_some {A : Acr} {content search replace : Bytes} {styles : List Style} {spans : List (Nat × Nat)}
    {x : Nat × Nat × Bytes} {m : M} (h : compoundOf A content search replace styles spans x = some m) :
    ∃ c, findCompound A x.2.2 search replace styles = some c ∧ m = mkM content x.1 x.2.1 c.full c.replacement := by
  unfold compoundOf at h
  split at h
  · cases h
  · split at h
    · rename_i c hc
      exact ⟨c, hc, (Option.some.inj h).symm⟩
    · cases h

/-- Every match of the line matcher is a boundary-checked hit of the exact pass, or the answer of the compound matcher
    on some identifier (the overlap resolution only selects among these). -/
theorem findEnhancedG_origin {trim : Bool} {A : Acr} {content search replace : Bytes} {variants : List Bytes}
    {styles : List Style} {m : M} (h : m ∈ findEnhancedG trim A content search replace variants styles) :
    (∃ s e, (s, e) ∈ scanExact variants 0 0 content ∧ m.start = s ∧ m.stop = e ∧
        m.variant = (content.drop s).take (e - s) ∧
        isBoundary (content.take s) ((content.drop s).take (e - s)) (content.drop e) = true) ∨
    (∃ c, findCompound A m.variant search replace styles = some c ∧ m.text = c.replacement) := by
  rcases mem_foldl_resolve h with h | h
  · cases h
  rcases List.mem_append.mp (mem_sortM.mp h) with h | h
  · obtain ⟨⟨s, e⟩, hse, rfl⟩ := List.mem_map.mp h
    exact Or.inl ⟨s, e, (mem_exactSpansOf hse).1, rfl, rfl, rfl, (mem_exactSpansOf hse).2⟩
  · obtain ⟨x, _, hm⟩ := List.mem_filterMap.mp h
    obtain ⟨c, hc, rfl⟩ := compoundOf_eq_some hm
    refine Or.inr ⟨c, ?_, rfl⟩
    show findCompound A c.full search replace styles = some c
    rw [(findCompoundG_sound hc).1, hc]

theorem longestVariant_sound {vs : List Bytes} {s v : Bytes} (h : longestVariant vs s = some v) :
    v ∈ vs ∧ v ≠ [] ∧ v.isPrefixOf s = true := by
  refine List.foldlRecOn vs _ (motive := fun best => ∀ b, best = some b → b ∈ vs ∧ b ≠ [] ∧ b.isPrefixOf s = true)
    (fun _ hb => by cases hb) (fun best ih x hx b hb => ?_) v h
  split at hb
  · rename_i hp
    simp only [Bool.and_eq_true, Bool.not_eq_true', List.isEmpty_eq_false_iff] at hp
    have hxq := And.intro hx hp
    split at hb
    · split at hb
      · cases hb; exact hxq
      · cases hb; exact ih _ rfl
    · cases hb; exact hxq
  · exact ih b hb

theorem scanExact_sound {vs : List Bytes} : ∀ (cs : Bytes) (skip pos s e : Nat), (s, e) ∈ scanExact vs skip pos cs →
    ∃ v ∈ vs, v ≠ [] ∧ pos ≤ s ∧ e = s + v.length ∧ (cs.drop (s - pos)).take v.length = v
  | [], _, _, _, _, h => by simp [scanExact] at h
  | c :: cs, skip, pos, s, e, h => by
    have later : ∀ k, (s, e) ∈ scanExact vs k (pos + 1) cs →
        ∃ v ∈ vs, v ≠ [] ∧ pos ≤ s ∧ e = s + v.length ∧ ((c :: cs).drop (s - pos)).take v.length = v := by
      intro k hk
      obtain ⟨v, hv, hne, hp, he, hpre⟩ := scanExact_sound cs k (pos + 1) s e hk
      refine ⟨v, hv, hne, by omega, he, ?_⟩
      have : s - pos = (s - (pos + 1)) + 1 := by omega
      rw [this, List.drop_succ_cons]; exact hpre
    cases skip with
    | succ k => rw [scanExact] at h; exact later k h
    | zero =>
      rw [scanExact] at h
      split at h
      · rename_i v hv
        rcases List.mem_cons.mp h with h | h
        · simp only [Prod.mk.injEq] at h
          obtain ⟨rfl, rfl⟩ := h
          obtain ⟨h1, h2, h3⟩ := longestVariant_sound hv
          exact ⟨v, h1, h2, Nat.le_refl _, rfl, by
            rw [Nat.sub_self]; exact (List.prefix_iff_eq_take.mp (List.isPrefixOf_iff_prefix.mp h3)).symm⟩
        · exact later _ h
      · exact later _ h

theorem dropWhile_hyphen_head (p : Bytes) : (p.dropWhile (· == 45)).head? ≠ some 45 := by
  have := List.head?_dropWhile_not (· == 45) p
  intro h
  rw [h] at this
  exact absurd this (by decide)

end Compound
