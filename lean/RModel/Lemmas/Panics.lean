import RModel.Model.Panics
import RModel.Lemmas.Edits
import RModel.Lemmas.Utf8
/-
  Lemmas for C16 (`Props/C16.lean`): the facts about the index / slice models that hold for the checked shapes (and
  for the old shapes under the hypotheses that made them safe).  Proofs by `fun_cases` / `fun_induction` follow the
  branches of the modelled function: a branch either returns, or makes a read that the tests before it put in range.
-/
open B Edits

namespace Panics

theorem idx_some_iff (bytes : Bytes) (i : Nat) : (idx bytes i).isSome = true ↔ i < bytes.length := by
  simp [idx]

theorem idx_none_iff (bytes : Bytes) (i : Nat) : idx bytes i = none ↔ bytes.length ≤ i :=
  List.getElem?_eq_none_iff

/-! ### pattern.rs::is_boundary -/

theorem rightBoundary_isSome (bytes : Bytes) (stop : Nat) (sp : Bool) :
    (rightBoundary bytes stop sp).isSome = true := by
  fun_cases rightBoundary bytes stop sp
  case case2 | case7 =>
    rename_i h
    rw [idx_none_iff] at h
    omega
  all_goals rfl

theorem leftBoundary_none_iff (bytes : Bytes) (start : Nat) (sp : Bool) (hs : start ≤ bytes.length) :
    leftBoundary bytes start sp = none ↔
      (0 < start ∧ sp = false ∧ start = bytes.length ∧ ∃ p, bytes[start - 1]? = some p ∧ isAlnum p = true) := by
  fun_cases leftBoundary bytes start sp
  · exact iff_of_false nofun fun h => by omega
  · rename_i hn
    rw [idx_none_iff] at hn
    omega
  · rename_i hsp
    exact iff_of_false nofun fun h => by rw [hsp] at h; cases h.2.1
  · rename_i hc _ ha
    refine iff_of_false nofun fun ⟨_, _, _, p, hp, hpa⟩ => ?_
    cases hc.symm.trans hp
    rw [hpa] at ha
    cases ha
  · -- the one panicking read: `bytes[start]` after an alphanumeric byte, at the very end of the buffer
    rename_i cur hc hsp ha hn
    rw [idx_none_iff] at hn
    exact iff_of_true rfl ⟨by omega, by simpa using hsp, by omega, cur, hc, by simpa using ha⟩
  · rename_i hc
    exact iff_of_false nofun fun h => by have := (List.getElem?_eq_some_iff.mp hc).1; omega

theorem isBoundary_none_iff (bytes : Bytes) (s e : Nat) :
    isBoundary bytes s e = none ↔ ¬ boundarySafe bytes s e := by
  unfold isBoundary boundarySafe
  by_cases h : s ≤ e ∧ e ≤ bytes.length
  · simp only [if_pos h]
    -- `s = len` leaves an empty match, which contains no space
    have hsp : s = bytes.length → ((bytes.take e).drop s).any (fun c => c.toNat = 32) = false := fun hlen => by
      rw [List.drop_eq_nil_of_le (by simp; omega)]; rfl
    generalize ((bytes.take e).drop s).any (fun c => c.toNat = 32) = sp at hsp ⊢
    obtain ⟨r, hr⟩ := Option.isSome_iff_exists.mp (rightBoundary_isSome bytes e sp)
    have hl := leftBoundary_none_iff bytes s sp (by omega)
    rw [hr]
    cases hlb : leftBoundary bytes s sp with
    | none =>
      obtain ⟨h0, -, hlen, hp⟩ := hl.mp hlb
      exact iff_of_true rfl fun hsafe => hsafe.2.2 ⟨h0, hlen, hp⟩
    | some l =>
      refine iff_of_false nofun fun hn => hn ⟨h.1, h.2, fun ⟨h0, hlen, hp⟩ => ?_⟩
      rw [hl.mpr ⟨h0, hsp hlen, hlen, hp⟩] at hlb
      cases hlb
  · rw [if_neg h]
    exact iff_of_true rfl fun hsafe => h ⟨hsafe.1, hsafe.2.1⟩

theorem match_nonempty (variants : List Bytes) (bytes : Bytes) (m : Nat × Nat) (hne : [] ∉ variants)
    (hm : IsMatchOf variants bytes m) : m.1 < m.2 := by
  obtain ⟨_, _, h3⟩ := hm
  refine Nat.lt_of_not_le fun h => hne ?_
  rwa [List.drop_eq_nil_of_le (by simp; omega)] at h3

theorem variantKeysChecked_nonempty (rendered : List Bytes) (search : Bytes) (exact : Bool) :
    [] ∉ variantKeysChecked rendered search exact := by
  simp [variantKeysChecked]

/-! ### the tokenizer's scans -/

theorem scanWhile_bounds (pred : UInt8 → Bool) (bytes : Bytes) (fuel j : Nat) (hj : j ≤ bytes.length) :
    j ≤ scanWhile pred bytes fuel j ∧ scanWhile pred bytes fuel j ≤ bytes.length := by
  fun_induction scanWhile pred bytes fuel j
  case case2 hc _ ih =>
    have := ih (List.getElem?_eq_some_iff.mp hc).1
    omega
  all_goals exact ⟨Nat.le_refl _, hj⟩

theorem scanUpper_bounds (bytes : Bytes) (i : Nat) (hi : i ≤ bytes.length) :
    i ≤ scanUpper bytes i ∧ scanUpper bytes i ≤ bytes.length :=
  scanWhile_bounds isUpper bytes _ i hi

theorem digitStart_le (current : Bytes) (d : Nat) : digitStart current d ≤ d := by
  fun_induction digitStart current d <;> omega

theorem upperRunChecked_ok (n start i bl : Nat) (h1 : start ≤ i) (h2 : i ≤ n) : upperRunChecked n start i bl = true := by
  unfold upperRunChecked upperRunOk
  rw [List.all_eq_true]
  intro len hlen
  have := List.mem_range.mp hlen
  exact decide_eq_true (by omega)

/-! ### character boundaries and `str` slices -/

theorem boundary_after_ascii {text : Bytes} (hc : ContAfterNonAscii text) {e : Nat} {b : UInt8} (he : 0 < e)
    (hb : text[e - 1]? = some b) (h128 : b.toNat < 128) : isCharBoundary text e = true := by
  have hlt := (List.getElem?_eq_some_iff.mp hb).1
  refine Utf8.isCharBoundary_iff.mpr ⟨by omega, fun c _ hcur => ?_⟩
  cases hcc : isCont c with
  | false => rfl
  | true =>
    have := hc (e - 1) b c hb (by rw [Nat.sub_add_cancel he]; exact hcur) hcc
    omega

theorem sliceStr_ne_none {s : Bytes} (hs : ∀ i ≤ s.length, isCharBoundary s i = true) {a b : Nat}
    (hab : a ≤ b) (hb : b ≤ s.length) : sliceStr s a b ≠ none := by
  rw [sliceStr_of ⟨hab, hb, hs a (by omega), hs b hb⟩]
  nofun

/-! ### `str::find` -/

theorem isPrefixOf_length {p s : Bytes} (h : p.isPrefixOf s = true) : p.length ≤ s.length :=
  (List.isPrefixOf_iff_prefix.mp h).length_le

theorem find_go_bound {p s : Bytes} {i k : Nat} (h : B.find.go p s i = some k) :
    i ≤ k ∧ k - i + p.length ≤ s.length := by
  fun_induction B.find.go p s i
  case case1 hp =>
    cases h
    rw [List.isEmpty_iff.mp hp]
    exact ⟨Nat.le_refl _, by simp⟩
  case case2 => cases h
  case case3 hp =>
    cases h
    have := isPrefixOf_length hp
    omega
  case case4 ih =>
    have := ih h
    rw [List.length_cons]
    omega

theorem find_bound {s p : Bytes} {k : Nat} (h : B.find s p = some k) : k + p.length ≤ s.length := by
  have := find_go_bound h
  omega

/-! ### scanner.rs::generate_hunks, preview/diff.rs -/

/-- `line_after` before ac203f2 is safe when the column and the end of the match are character boundaries -/
theorem lineAfterOld_isSome (line content repl : Bytes) (col : Nat)
    (hc : isCharBoundary line col = true)
    (he : col + content.length ≤ line.length → isCharBoundary line (col + content.length) = true) :
    (lineAfterOld line col content repl).isSome = true := by
  fun_cases lineAfterOld line col content repl
  case case1 hlt hn =>
    rw [sliceStr_of ⟨Nat.le_of_lt hlt, Nat.le_refl _, hc, Utf8.isCharBoundary_length line⟩] at hn
    cases hn
  case case3 hlt tail hs hp hn =>
    obtain ⟨rfl, -⟩ := sliceStr_some hs
    have hl := isPrefixOf_length hp
    rw [List.length_drop, List.take_length] at hl
    have hle : col + content.length ≤ line.length := by omega
    exact (hn _ _ (sliceStr_of ⟨Nat.zero_le _, Nat.le_of_lt hlt, rfl, hc⟩)
      (sliceStr_of ⟨hle, Nat.le_refl _, he hle, Utf8.isCharBoundary_length line⟩)).elim
  all_goals rfl

theorem diffStepChecked_isSome (afterLine content repl : Bytes) (col : Nat)
    (he : col + content.length ≤ afterLine.length → isCharBoundary afterLine (col + content.length) = true) :
    (diffStepChecked afterLine col content repl).isSome = true := by
  fun_cases diffStepChecked afterLine col content repl
  case case2 tail hs hc =>
    obtain ⟨rfl, hcol, -, hb, -⟩ := sliceStr_some hs
    have hl := isPrefixOf_length (Bool.and_eq_true_iff.mp hc).2
    rw [List.length_drop, List.take_length] at hl
    have hle : col + content.length ≤ afterLine.length := by omega
    exact Option.isSome_iff_exists.mpr ⟨_, if_pos ⟨Nat.le_add_right _ _, hle, hb, he hle⟩⟩
  all_goals rfl

/-! ### coercion.rs::replace_case_insensitive, and the literal search of `replace` -/

theorem match_end_le {text tl pattern pl rest : Bytes} {lastEnd start : Nat} (hl : tl.length = text.length)
    (hpl : pl.length = pattern.length) (hr : sliceStr tl lastEnd tl.length = some rest)
    (hf : B.find rest pl = some start) : lastEnd + start + pattern.length ≤ text.length := by
  have hb := find_bound hf
  obtain ⟨rfl, hle, -⟩ := sliceStr_some hr
  rw [List.length_drop, List.take_length] at hb
  omega

/-- the checked loop always finishes: every slice miss returns, every round advances by a non-empty pattern
    (`fuel` only has to cover the distance to the end of the text) -/
theorem ciLoopChecked_done (text tl pattern pl repl : Bytes) (hl : tl.length = text.length)
    (hpl : pl.length = pattern.length) (hpos : 0 < pattern.length) (fuel lastEnd : Nat) (acc : Bytes)
    (h1 : lastEnd ≤ text.length) (h2 : text.length + 1 ≤ fuel + lastEnd) :
    ∃ r, ciLoopChecked text tl pattern pl repl fuel lastEnd acc = .done r := by
  fun_induction ciLoopChecked text tl pattern pl repl fuel lastEnd acc
  case case1 => omega
  case case5 hb _ _ _ _ ih =>
    obtain ⟨rest, hr, hf⟩ := Option.bind_eq_some_iff.mp hb
    have := match_end_le hl hpl hr hf
    exact ih (by omega) (by omega)
  all_goals exact ⟨_, rfl⟩

theorem replaceCIChecked_done (lower : Bytes → Bytes) (text pattern repl : Bytes) :
    ∃ r, replaceCIChecked lower text pattern repl = .done r := by
  fun_cases replaceCIChecked lower text pattern repl
  · exact ⟨_, rfl⟩
  · rename_i h
    simp only [Bool.or_eq_true, List.isEmpty_iff, decide_eq_true_eq, not_or, Decidable.not_not] at h
    obtain ⟨⟨hne, hl⟩, hpl⟩ := h
    have hpos : 0 < pattern.length := hpl ▸ List.length_pos_iff.mpr hne
    exact ciLoopChecked_done text _ pattern _ repl hl hpl hpos _ 0 [] (Nat.zero_le _) (by omega)

theorem ciLoop_done (text tl pattern pl repl : Bytes) (hl : tl.length = text.length)
    (hpl : pl.length = pattern.length) (hpos : 0 < pattern.length)
    (ht : ∀ i ≤ text.length, isCharBoundary text i = true) (htl : ∀ i ≤ tl.length, isCharBoundary tl i = true)
    (fuel lastEnd : Nat) (acc : Bytes) (h1 : lastEnd ≤ text.length) (h2 : text.length + 1 ≤ fuel + lastEnd) :
    ∃ r, ciLoop text tl pattern pl repl fuel lastEnd acc = .done r := by
  fun_induction ciLoop text tl pattern pl repl fuel lastEnd acc
  case case1 => omega
  case case2 hn => exact absurd hn (sliceStr_ne_none htl (by omega) (Nat.le_refl _))
  case case3 hn => exact absurd hn (sliceStr_ne_none ht h1 (Nat.le_refl _))
  case case4 => exact ⟨_, rfl⟩
  case case5 hr _ hf _ hn =>
    have := match_end_le hl hpl hr hf
    exact absurd hn (sliceStr_ne_none ht (Nat.le_add_right _ _) (by omega))
  case case6 hr _ hf _ _ _ _ ih =>
    have := match_end_le hl hpl hr hf
    exact ih (by omega) (by omega)

theorem lower_ascii {s : Bytes} (h : ∀ c ∈ s, c.toNat < 128) : ∀ c ∈ B.lower s, c.toNat < 128 := by
  intro c hc
  obtain ⟨a, ha, rfl⟩ := List.mem_map.mp hc
  have := h a ha
  unfold B.toLower
  split
  · rename_i hu
    simp only [B.isUpper, Bool.and_eq_true, decide_eq_true_eq] at hu
    rw [UInt8.toNat_add]
    simp
    omega
  · exact this

theorem litLoop_done (line pattern : Bytes) (hpos : 0 < pattern.length) (fuel ss n : Nat)
    (h1 : ss ≤ line.length) (h2 : line.length + 1 ≤ fuel + ss) : ∃ k, litLoop line pattern fuel ss n = .done k := by
  fun_induction litLoop line pattern fuel ss n
  case case1 => omega
  case case2 => exact ⟨_, rfl⟩
  case case3 hf ih =>
    have := find_bound hf
    rw [List.length_drop] at this
    exact ih (by omega) (by omega)

theorem literalChecked_terminates (line pattern : Bytes) : literalChecked line pattern ≠ .diverges := by
  unfold literalChecked
  split
  · nofun
  · rename_i hp
    have hpos : 0 < pattern.length := List.length_pos_iff.mpr (by simpa using hp)
    obtain ⟨k, hk⟩ := litLoop_done line pattern hpos (line.length + 2) 0 0 (Nat.zero_le _) (by omega)
    rw [hk]
    nofun

/-! ### acronym.rs::find_longest_match with the ASCII guard -/

/-- the walk only ever records a position one past an ASCII byte, strictly after `start` -/
def AcrInv (text : Bytes) (start : Nat) (last : Option Nat) : Prop :=
  ∀ e, last = some e → start < e ∧ e ≤ text.length ∧ ∃ b, text[e - 1]? = some b ∧ b.toNat < 128

theorem acrLoop_inv {σ} (next : σ → UInt8 → Option σ) (isEnd : σ → Bool) (text : Bytes) (start : Nat)
    (fuel i : Nat) (node : σ) (last : Option Nat) (hi : start ≤ i) (h : AcrInv text start last) :
    AcrInv text start (acrLoop true next isEnd text fuel i node last) := by
  fun_induction acrLoop true next isEnd text fuel i node last
  case case5 cur hc hg _ _ ih =>
    refine ih (by omega) ?_
    split
    · intro e he
      cases he
      have := (List.getElem?_eq_some_iff.mp hc).1
      exact ⟨by omega, by omega, cur, hc, by simpa using hg⟩
    · exact h
  all_goals exact h

theorem findLongest_guarded_isSome {σ} (next : σ → UInt8 → Option σ) (isEnd : σ → Bool) (root : σ) (text : Bytes)
    (start : Nat) (hs : isCharBoundary text start = true) (hc : ContAfterNonAscii text) :
    (findLongestG true next isEnd root text start).isSome = true := by
  unfold findLongestG
  have inv := acrLoop_inv next isEnd text start (text.length - start) start root none (Nat.le_refl _) nofun
  split
  · rfl
  · rename_i e hr
    obtain ⟨h1, h2, b, hb, hb128⟩ := inv e hr
    rw [sliceStr_of ⟨Nat.le_of_lt h1, h2, hs, boundary_after_ascii hc (by omega) hb hb128⟩]
    rfl

end Panics
