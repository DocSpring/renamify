import RModel.Lemmas.CaseModelWords
/-
  The trie contract (`AcrOk`, `AcrStable`) holds for every concrete acronym list whose entries are alphanumeric
  (`acrOf acrs`); and `flmOf` computed through an index of the list, which is what gets evaluated on test vectors.
-/
open B

namespace CaseModel

def optMax (best : Option Nat) (n : Nat) : Option Nat :=
  match best with | none => some n | some m => some (max m n)

theorem foldl_optMax_some : ∀ (l : List Nat) (m : Nat), l.foldl optMax (some m) = some (l.foldl max m)
  | [], _ => rfl
  | a :: l, m => by simp only [List.foldl_cons, optMax, foldl_optMax_some l]

theorem foldl_optMax (l : List Nat) : l.foldl optMax none = l.max? := by
  cases l with
  | nil => rfl
  | cons a l => exact foldl_optMax_some l a

def flmCand (acrs : List Bytes) (rest : Bytes) (n : Nat) : Bool :=
  decide (0 < n) && decide (n ≤ rest.length) && acrs.any (fun a => lower a == lower (rest.take n))

def flmLens (acrs : List Bytes) : List Nat :=
  (acrs.map List.length).foldl (fun acc n => if acc.contains n then acc else n :: acc) []

theorem flmOf_eq (acrs : List Bytes) (rest : Bytes) :
    flmOf acrs rest = ((flmLens acrs).filter (flmCand acrs rest)).foldl optMax none := rfl

theorem flmOf_eq_some {acrs : List Bytes} {rest : Bytes} {n : Nat} : flmOf acrs rest = some n ↔
    (n ∈ flmLens acrs ∧ flmCand acrs rest n = true) ∧ ∀ k, k ∈ flmLens acrs ∧ flmCand acrs rest k = true → k ≤ n := by
  simp only [flmOf_eq, foldl_optMax, List.max?_eq_some_iff, List.mem_filter]

theorem flmCand_le {acrs : List Bytes} {rest : Bytes} {n : Nat} (h : flmCand acrs rest n = true) :
    n ≤ rest.length := by
  simp only [flmCand, Bool.and_eq_true, decide_eq_true_eq] at h
  exact h.1.2

theorem flmCand_prefix {acrs : List Bytes} {x t : Bytes} {n : Nat} (hn : n ≤ x.length) :
    flmCand acrs (x ++ t) n = flmCand acrs x n := by
  have h1 : decide (n ≤ (x ++ t).length) = true := by rw [List.length_append]; exact decide_eq_true (by omega)
  have h2 : decide (n ≤ x.length) = true := decide_eq_true hn
  simp only [flmCand, List.take_append_of_le_length hn, h1, h2]

theorem isAlnum_toLower_iff (c : UInt8) : isAlnum (toLower c) = isAlnum c := by
  cases hu : isUpper c with
  | false => rw [toLower_id hu]
  | true => rw [lower_alnum (toLower_of_upper hu), upper_alnum hu]

theorem acrStable_acrOf (acrs : List Bytes) : AcrStable (acrOf acrs) := by
  intro x t n hf hn
  obtain ⟨hmem, hmax⟩ := flmOf_eq_some.mp hf
  refine flmOf_eq_some.mpr ⟨⟨hmem.1, flmCand_prefix hn ▸ hmem.2⟩, fun k hk => hmax k ⟨hk.1, ?_⟩⟩
  rw [flmCand_prefix (flmCand_le hk.2)]
  exact hk.2

theorem acrOk_acrOf {acrs : List Bytes} (h : ∀ a ∈ acrs, ∀ c ∈ a, isAlnum c = true) : AcrOk (acrOf acrs) := by
  intro rest n hf
  have hc := (flmOf_eq_some.mp hf).1.2
  simp only [flmCand, Bool.and_eq_true, decide_eq_true_eq, List.any_eq_true, beq_iff_eq] at hc
  obtain ⟨⟨h0, hlen⟩, a, ha, heq⟩ := hc
  refine ⟨h0, hlen, fun c hc => ?_⟩
  have : toLower c ∈ lower a := heq ▸ List.mem_map_of_mem (f := toLower) hc
  obtain ⟨y, hy, hyc⟩ := List.mem_map.mp this
  rw [← isAlnum_toLower_iff c, ← hyc, isAlnum_toLower_iff]
  exact h a ha y hy

/-- `flmOf` over an index of the acronym list (the lower-cased entries grouped by length), so that a prefix of length
    `n` is compared with the entries of length `n` only; the test vectors are evaluated through it. -/
def flmIdx (idx : List (Nat × List Bytes)) (rest : Bytes) : Option Nat :=
  idx.foldl (fun best g =>
    if decide (0 < g.1) && decide (g.1 ≤ rest.length) && g.2.any (· == lower (rest.take g.1)) then optMax best g.1
    else best) none

def acrIndex (acrs : List Bytes) : List (Nat × List Bytes) :=
  (flmLens acrs).map (fun n => (n, (acrs.filter (·.length == n)).map lower))

/-- an entry that matches `rest.take n` has length `n` -/
theorem flmCand_index (acrs : List Bytes) (rest : Bytes) (n : Nat) :
    flmCand acrs rest n = (decide (0 < n) && decide (n ≤ rest.length) &&
      ((acrs.filter (·.length == n)).map lower).any (· == lower (rest.take n))) := by
  rw [flmCand, List.any_map, List.any_filter]
  cases hn : decide (n ≤ rest.length) with
  | false => simp only [Bool.and_false, Bool.false_and]
  | true =>
    refine congrArg _ (List.any_congr rfl fun a => ?_)
    cases hm : lower a == lower (rest.take n) with
    | false => simp only [Function.comp_apply, hm, Bool.and_false]
    | true =>
      have := congrArg List.length (beq_iff_eq.mp hm)
      rw [lower_length, lower_length, List.length_take, Nat.min_eq_left (of_decide_eq_true hn)] at this
      simp only [Function.comp_apply, hm, this, beq_self_eq_true, Bool.and_self]

theorem flmOf_eq_flmIdx (acrs : List Bytes) (rest : Bytes) : flmOf acrs rest = flmIdx (acrIndex acrs) rest := by
  rw [flmOf_eq, flmIdx, acrIndex]
  generalize flmLens acrs = lens
  generalize (none : Option Nat) = b
  induction lens generalizing b with
  | nil => rfl
  | cons n lens ih =>
    rw [List.filter_cons, List.map_cons, List.foldl_cons, ← flmCand_index]
    cases flmCand acrs rest n
    · exact ih b
    · exact ih _

theorem acrOf_eq_index (acrs : List Bytes) : acrOf acrs = ⟨flmIdx (acrIndex acrs), (acrOf acrs).isAcr⟩ :=
  congrArg (Acr.mk · _) (funext (flmOf_eq_flmIdx acrs))

def acrsAlnum (acrs : List Bytes) : Bool := acrs.all (fun a => a.all isAlnum)

theorem acrOk_of_acrsAlnum {acrs : List Bytes} (h : acrsAlnum acrs = true) : AcrOk (acrOf acrs) := by
  apply acrOk_acrOf
  intro a ha c hc
  simp only [acrsAlnum, List.all_eq_true] at h
  exact h a ha c hc

end CaseModel
