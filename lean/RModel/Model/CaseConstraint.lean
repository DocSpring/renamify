/-
  `case_constraints.rs::CaseConstraint` — the six case patterns a style can demand of a text.
  (Only the type; the table `Style::constraints` is generated into `Gen/LineTables.lean`, the checks that interpret it
  are in `Model/LinePipeline.lean`.)
-/
namespace CaseModel

inductive CaseConstraint where
  | allUppercase | allLowercase | titlePattern | camelPattern | pascalPattern
  /-- every space-separated word capitalised: the pattern of Title (`Gen/LineTables.lean`), which tells it from Sentence -/
  | titleWordsPattern
  deriving DecidableEq, Repr

end CaseModel
