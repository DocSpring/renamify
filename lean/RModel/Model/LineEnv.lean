import RModel.Base.Bytes
import RModel.Model.CaseModel
import RModel.Model.LinePipeline
import RModel.Model.Compound
import RModel.Model.RenamePlan
import RModel.Gen.RenameTables
import RModel.Gen.Acronyms
/-
  L1–L3 for ONE LINE, composed: the three parameters `Env` of `LinePipeline` instantiated with the models of the real code.

    scanner.rs            `scan_repository_multi`: the Aho-Corasick pre-filter (`variant_found || tokens_satisfied`), the call of
                          `find_enhanced_matches` with `styles_slice`;  `generate_hunks`: compound match = a match whose `variant`
                          is no key of the variant map, `apply_coercion` + `apply_coercion_to_variant` on the immediate context of
                          the match at its own column (`LinePipeline.contextPos`), the first-letter fix-up (exact AND compound matches)
    compound_scanner.rs   `find_enhanced_matches` (exact pass = `LinePipeline.exactMatches`, identifiers = `Compound.findAll`,
                          `Compound.compoundOf`, sort, `Compound.resolveStep`)
    coercion.rs           `apply_coercion`, `detect_style`, `tokenize`, `render_tokens` (= `RenamePlan.*`, shared with C08)

  `envReal c` is the `Env` whose `compound` field are the hunks of the matches that are no keys of the map, after overlap
  resolution, and whose `coerce` field is the coercion decision of `generate_hunks`.  The overlap resolution can also DROP an
  exact match (an identifier that strictly contains it is rewritten by the compound matcher instead), which the `Env`
  interface cannot express; `lineHunksReal` therefore runs the exact branch on the exact matches that survive
  (`keptExact`) and is `LinePipeline.lineHunks (cfgReal c)` whenever all of them do (`Lemmas/LineEnv.lean`).

  Domain: one line (optionally with its terminator), ASCII plus non-ASCII characters that are neither alphanumeric nor
  white space (Rust's `char::is_alphanumeric` / the regex classes `\w`, `\s`, `\b` are Unicode aware; here every byte ≥ 0x80
  is a non-word, non-space byte), no `--exclude-match`, `CoercionMode::Auto`, no atomic identifiers.
-/
open B CaseModel

namespace LinePipeline

-- ---------------------------------------------------------------------------------------------------------------------
-- scanner.rs: the coercion decision of `generate_hunks`

/-- the tables `coercion::detect_style` uses (its own extension list; `get_default_acronym_set()` whatever the options say) -/
def coerceTables : RenamePlan.Tables :=
  { exts := Gen.coercionExtensions, extMax := Gen.coercionExtMaxLen, reserved := [],
    isAcr := (acrOf Gen.defaultAcronyms).isAcr }

/-- `apply_coercion_to_variant(container, _, new_variant)`: the replacement re-rendered in the container's style -/
def coerceToVariant (T : RenamePlan.Tables) (container new : Bytes) : Option Bytes :=
  let cs := RenamePlan.detectStyle T container
  if cs == .mixed || cs == .dot then none
  else some (RenamePlan.renderTokens (RenamePlan.tokenize new) cs)

/-- `if let Some(_) = apply_coercion(ctx, content, replace) { if let Some(v) = apply_coercion_to_variant(ctx, content, replace)
    { replace = v } }`: only WHETHER `apply_coercion` answers is used, the text comes from `apply_coercion_to_variant` -/
def coerceReal (T : RenamePlan.Tables) (ctx old new : Bytes) : Option Bytes :=
  match RenamePlan.applyCoercion T ctx old new with
  | none => none
  | some _ => coerceToVariant T ctx new

-- ---------------------------------------------------------------------------------------------------------------------
-- scanner.rs: the pre-filter of `scan_repository_multi`

def pushNew (acc : List Bytes) (x : Bytes) : List Bytes := if acc.contains x then acc else acc ++ [x]

/-- first character upper-cased, the rest lower-cased (the `title` form of a token, `capitalize_token`) -/
def capToken : Bytes → Bytes
  | [] => []
  | c :: cs => toUpper c :: lower cs

/-- the four spellings of a text that go into `matcher_patterns` -/
def tokenForms (t : Bytes) : List Bytes := [t, lower t, upper t, capToken t].foldl pushNew []

/-- `enable_singular_variants` (nothing is atomic) -/
def singularEnabled (c : Cfg) : Bool :=
  c.plurals && decide ((parse c.A c.search).length > 1) &&
    decide ((parse c.A c.replace).length > (parse c.A c.search).length)

/-- `matcher_patterns`: the keys of the variant map, the spellings of every search token of three or more bytes and, when
    singular variants are on, the spellings of the singular of the last token -/
def matcherPatterns (c : Cfg) : List Bytes :=
  let toks := parse c.A c.search
  c.vmap.keys ++
  (toks.zipIdx.flatMap (fun (t, i) =>
    if t.length < 3 then []
    else tokenForms t ++
      (if singularEnabled c && i + 1 == toks.length then
        (match c.sing t with
         | some s => (tokenForms s).filter (fun f => !f.isEmpty)
         | none => [])
       else [])))

/-- `variant_found || tokens_satisfied`.  Every spelling that can make `tokens_satisfied` true is itself a member of
    `matcher_patterns`, so the disjunction is `variant_found`: some pattern occurs in the content. -/
def prefilter (c : Cfg) (line : Bytes) : Bool :=
  (matcherPatterns c).any (fun p => (B.find line p).isSome)

-- ---------------------------------------------------------------------------------------------------------------------
-- compound_scanner.rs: find_enhanced_matches on the line

/-- the exact pass (unless skipped) -/
def exactOf (c : Cfg) (line : Bytes) : List (Nat × Bytes) :=
  if skipExact c.A c.search (stylesSlice c.opts) then [] else exactMatches line c.vmap.keys

/-- `processed_ranges` -/
def spansOf (ex : List (Nat × Bytes)) : List (Nat × Nat) := ex.map (fun m => (m.1, m.1 + m.2.length))

/-- the compound candidates: every identifier of the line that no exact match covers and in which the compound matcher
    finds the term (`additional_lines` and the candidate-line window only matter for files of several lines) -/
def compoundCands (c : Cfg) (line : Bytes) (spans : List (Nat × Nat)) : List Compound.M :=
  (Compound.findAll (stylesSlice c.opts) line).filterMap
    (Compound.compoundOf c.A line c.search c.replace (stylesSlice c.opts) spans)

/-- `find_enhanced_matches(content, …, search, replace, variant_map, styles_slice, extractor, _)` -/
def finalMs (c : Cfg) (line : Bytes) : List Compound.M :=
  let ex := exactOf c line
  let spans := spansOf ex
  let exactMs := ex.map (fun m => Compound.mkM line m.1 (m.1 + m.2.length) m.2 m.2)
  (Compound.sortM (exactMs ++ compoundCands c line spans)).foldl (Compound.resolveStep spans) []

/-- the matches `generate_hunks` sends through the exact branch (`variant_map.contains_key(&m.variant)`), as the exact
    pass reports them -/
def keptExact (c : Cfg) (line : Bytes) : List (Nat × Bytes) :=
  ((finalMs c line).filter (fun m => c.vmap.containsKey m.variant)).map (fun m => (m.start, m.variant))

/-- the hunks of the other matches: `content = m.variant`, `replace = m.text` after the first-letter fix-up -/
def compoundHunks (c : Cfg) (line : Bytes) : List (Nat × Nat × Bytes × Bytes) :=
  ((finalMs c line).filter (fun m => !c.vmap.containsKey m.variant)).map
    (fun m => (m.start, m.stop, m.variant, fixFirst m.variant m.text))

/-- the real environment of a call; only the resolver heuristics stay a parameter (`c.env.heur`) -/
def envReal (c : Cfg) : Env :=
  { heur := c.env.heur, coerce := coerceReal coerceTables, compound := compoundHunks c }

def cfgReal (c : Cfg) : Cfg := { c with env := envReal c }

/-- stable insertion sort of the hunks by start offset (`sort_by_key`; structural, so that the kernel evaluates it — on the
    lists of at most one hunk of the one-occurrence theorems it is `List.mergeSort` of `LinePipeline.lineHunks`) -/
def insertEdit (e : Edits.Edit) : List Edits.Edit → List Edits.Edit
  | [] => [e]
  | x :: xs => if e.start ≤ x.start then e :: x :: xs else x :: insertEdit e xs

def sortEdits (es : List Edits.Edit) : List Edits.Edit := es.foldr insertEdit []

/-- the hunks of the line as `scan_repository_multi` produces them -/
def lineHunksReal (c : Cfg) (line : Bytes) : Option (List Edits.Edit) :=
  let cfg := cfgReal c
  if !prefilter c line then some [] else
  match exactHunks cfg cfg.vmap line (keptExact c line) with
  | none => none
  | some hs =>
    let ch := (cfg.env.compound line).map (fun c =>
      ({ before := c.2.2.1, after := c.2.2.2, start := c.1, stop := c.2.1 } : Edits.Edit))
    some (sortEdits (hs ++ ch))

/-- plan + apply on the one-line file with the composed model -/
def rewriteLineReal (c : Cfg) (line : Bytes) : Option Bytes :=
  match lineHunksReal c line with
  | none => none
  | some es =>
    match Edits.applyEdits line es with
    | .ok b => some b
    | .error _ => none

end LinePipeline
