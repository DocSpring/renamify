import RModel.Base.Lit
import RModel.Base.Utf8
import RModel.Model.Edits
import RModel.Model.Fs
import RModel.Model.Apply
import RModel.Gen.ExecFlags
/-
  L5 (operation level): the commands `rename -y`, `apply`, `redo`, `replace`, `undo` as programs that issue
  one mutating file-system call at a time.  Every call goes through `doOp`, which counts it, logs it and
  consults the injection spec (`fail k errno | crashBefore k | crashAfter k | crashMid k`).  On `fail` the
  Rust error path is followed (`?`, `rollback`, `let _ =`, the Drop of the lock, the BufWriter whose flush
  error is lost); on a crash execution stops with the world as it is.

  World = ONE `Fs.Tree`.  Paths below `.renamify` are part of it; `userTree` filters them out, so the user
  part is exactly the tree of `Fs`/`Apply`.  File contents below `.renamify` are abstract:
    history.json   '[' ++ one byte per entry ++ ']'   (parses iff it has that shape; an empty or half
                   written file does not parse, and `History::load` then silently starts empty)
    renamify.lock  "LL" when written, "L" when half written (`pid:timestamp` of a process that is gone by the
                   time anybody looks: any non-empty content splits into two parts and is removed as stale or
                   orphaned), [] when only created
    patches, plans, logs: opaque blobs; run-specific names are the placeholders of the trace abstraction
    (`<ID>`, `<HASH>.patch`, `a.PID.renamify.tmp`, `.tmpRAND`).
  A log line (`state.log`, five write(2) calls on an O_APPEND descriptor) is one op `logLine` without effect.

  Mirrors: apply.rs (apply_plan, apply_content_edits_with_content, perform_rename, rollback,
  generate_reverse_patches), history.rs (load_from_path, save), lock.rs (acquire, Drop), undo.rs
  (undo_renaming, apply_single_patch), operations/{rename,apply,undo}.rs, renamify-cli/src/replace.rs,
  rename.rs::detect_case_insensitive_fs, std::fs::create_dir_all.
  A number of places exist in two variants, selected by the flags that translate/execflags.py reads from the source
  (RModel/Gen/ExecFlags.lean), among them: in-place vs. temp+rename `History::save`, empty lock file fatal vs. stale, lock
  content write failure leaving vs. removing the file, in-place vs. temp+rename `apply_single_patch`, temp file
  kept vs. removed when a step of the atomic replace fails.  (`ExecFlags.offsetsChecked` records that the edit loop
  slices with `str::get`; the model uses `Edits.applyEdits = applyEditsG true`, and `C04.offsets_checked_flag` breaks
  if the source stops checking.)  The functions take the flag as a parameter
  (`…F`), so theorems can speak about either variant.
  Not modelled: case-only renames (second probe file), `--commit`, created_directories, fsync.
-/

namespace Exec
open Fs Apply

-- names -------------------------------------------------------------------------------------------
def dotR : Bytes := b!".renamify"
def pR : Path := [dotR]
def pLock : Path := [dotR, b!"renamify.lock"]
def pLockTmp : Path := [dotR, b!"renamify.lock.PID.tmp"]
def pHist : Path := [dotR, b!"history.json"]
def pPlanJson : Path := [dotR, b!"plan.json"]
def pApplyLog : Path := [dotR, b!"apply.log"]
def pLogFile (id : Bytes) : Path := [dotR, b!"logs", id ++ b!".log"]
def pPatchDir (id : Bytes) : Path := [dotR, b!"backups", id, b!"reverse_patches"]
def pPatch (id : Bytes) : Path := pPatchDir id ++ [b!"<HASH>.patch"]
def pPlans : Path := [dotR, b!"plans"]
def pStored (id : Bytes) : Path := [dotR, b!"plans", id ++ b!".json"]
def pProbe : Path := [b!".tmpRAND"]
def pProbeFile : Path := [b!".tmpRAND", b!"test_case_a"]
def idNew : Bytes := b!"<ID>"
def idOld : Bytes := b!"<OLD>"
def idRedo : Bytes := b!"redo-<ID>-<TS>"
def blob : Bytes := b!"BB"
def lockText : Bytes := b!"LL"

def isMeta (p : Path) : Bool := p.head? == some dotR
def userTree (t : Tree) : Tree := t.filter (fun e => !isMeta e.1)

/-- `Path::with_extension("<pid>.renamify.tmp")` on the last component -/
def stem (name : Bytes) : Bytes :=
  match (name.reverse.dropWhile (· != 46)) with
  | [] => name                       -- no dot
  | _ :: revStem => if revStem.isEmpty then name else revStem.reverse   -- ".hidden" keeps its name
/-- the temp sibling of a file: `<stem>.<pid>.renamify.tmp` (placeholder `PID`; `ExecFlags.tempNamePerPid`), or the
    fixed `<stem>.renamify.tmp` -/
def tmpName (name : Bytes) : Bytes :=
  stem name ++ (if ExecFlags.tempNamePerPid then b!".PID.renamify.tmp" else b!".renamify.tmp")
def tmpPath (f : Path) : Path :=
  match f.getLast? with
  | none => f
  | some n => f.dropLast ++ [tmpName n]
def rejPath (f : Path) : Path :=
  match f.getLast? with
  | none => f
  | some n => f.dropLast ++ [n ++ b!".rej"]

-- history file ---------------------------------------------------------------------------------------
def encodeHist (es : Bytes) : Bytes := [91] ++ es ++ [93]
def parseHist (c : Bytes) : Option Bytes :=
  match c with
  | 91 :: rest => if rest.getLast? == some 93 then some rest.dropLast else none
  | _ => none
/-- `History::load`: missing file or unparsable content ⇒ empty history (the latter with a warning only) -/
def loadHist (t : Tree) : Bytes :=
  match lookup t pHist with
  | some (.file c _) => (parseHist c).getD []
  | _ => []
def histParses (t : Tree) : Bool :=
  match lookup t pHist with
  | some (.file c _) => (parseHist c).isSome
  | none => true
  | _ => false

-- operations -----------------------------------------------------------------------------------------
inductive Op where
  | mkdir (p : Path)
  | openw (p : Path) (trunc excl : Bool)
  | write (p : Path) (c : Bytes)
  | chmod (p : Path) (m : Nat)
  | rename (a b : Path) (sa sb : Bool)
  | link (a b : Path)
  | unlink (p : Path)
  | rmdir (p : Path)
  | logLine
  deriving DecidableEq, Repr

def setMode (t : Tree) (p : Path) (m : Nat) : Tree :=
  t.map (fun e => if e.1 == p then
    (match e.2 with | .file c _ => (e.1, .file c m) | .dir _ => (e.1, .dir m) | n => (e.1, n)) else e)

/-- put node `n` at key `b` (keeping the position of `b` in the list) -/
def putNode (t : Tree) (b : Path) (n : Node) : Tree :=
  t.map (fun e => if e.1 == b then (e.1, n) else e)

/-- POSIX semantics of one mutating call.  A regular file renamed onto an existing regular file replaces it
    (the list position of the destination is kept — list order carries no meaning); every other rename is
    `Apply.renameTS`. -/
def execOp (t : Tree) : Op → Except Errno Tree
  | .mkdir p =>
    match parentOk t p with
    | .error e => .error e
    | .ok () => if exists_ t p then .error .EEXIST else .ok (t ++ [(p, .dir 0o755)])
  | .openw p trunc excl =>
    match parentOk t p with
    | .error e => .error e
    | .ok () =>
      match lookup t p with
      | none => if p.isEmpty then .error .EISDIR else .ok (t ++ [(p, .file [] 0o644)])
      | some (.file _ _) => if excl then .error .EEXIST else if trunc then .ok (setContent t p []) else .ok t
      | some (.dir _) => .error .EISDIR
      | some (.link _) => .error .EINVAL
  | .write p c =>
    match lookup t p with
    | some (.file c0 _) => .ok (setContent t p (c0 ++ c))
    | _ => .error .EINVAL
  | .chmod p m =>
    match lookup t p with
    | some (.link _) => .error .EINVAL
    | some _ => .ok (setMode t p m)
    | none => .error .ENOENT
  | .rename a b sa sb =>
    match lookup t a, lookup t b with
    | some (.file c m), some (.file _ _) =>
      if sa || sb then .error .ENOTDIR else if a == b then .ok t else .ok (putNode (removeKey t a) b (.file c m))
    | _, _ => renameTS t a sa b sb
  | .link a b =>
    -- link(2): a second name for the same regular file; fails if the new name exists
    match lookup t a with
    | some (.file c m) =>
      (match parentOk t b with
       | .error e => .error e
       | .ok () => if exists_ t b then .error .EEXIST else .ok (t ++ [(b, .file c m)]))
    | some _ => .error .EINVAL
    | none => .error .ENOENT
  | .unlink p =>
    match lookup t p with
    | none => .error .ENOENT
    | some (.dir _) => .error .EISDIR
    | some _ => .ok (removeKey t p)
  | .rmdir p =>
    match lookup t p with
    | none => .error .ENOENT
    | some (.dir _) => if hasChildren t p then .error .ENOTEMPTY else .ok (removeKey t p)
    | some _ => .error .ENOTDIR
  | .logLine => .ok t

/-- the state a kill in the middle of the call leaves: a write has put down the first half of its bytes,
    everything else has not happened -/
def partialOp (t : Tree) : Op → Tree
  | .write p c =>
    if c.length < 2 then t else
    match execOp t (.write p (c.take (c.length / 2))) with
    | .ok t' => t'
    | .error _ => t
  | _ => t

-- the program monad ------------------------------------------------------------------------------------
inductive Inj where
  | none
  | fail (k : Nat) (e : Errno)
  | crashBefore (k : Nat)
  | crashAfter (k : Nat)
  | crashMid (k : Nat)
  deriving DecidableEq, Repr

inductive Fail where
  | io (e : Errno)
  | mismatch | unreadable | destExists | rollbackErr | patchFailed | dupId
  | panic
  deriving DecidableEq, Repr

structure St where
  t : Tree
  n : Nat := 0
  trace : List (Op × Option Errno) := []      -- newest first
  inj : Inj := .none
  deriving Repr

inductive Res (α : Type) where
  | ok (a : α) (s : St)
  | err (f : Fail) (s : St)
  | crash (s : St)

def Res.st {α} : Res α → St
  | .ok _ s => s
  | .err _ s => s
  | .crash s => s

def M (α : Type) := St → Res α

def M.pure {α} (a : α) : M α := fun s => .ok a s
def M.bind {α β} (x : M α) (f : α → M β) : M β := fun s =>
  match x s with
  | .ok a s' => f a s'
  | .err e s' => .err e s'
  | .crash s' => .crash s'
instance : Monad M where
  pure := M.pure
  bind := M.bind

def throw {α} (f : Fail) : M α := fun s => .err f s
def getTree : M Tree := fun s => .ok s.t s

def rec (s : St) (op : Op) (r : Option Errno) : St := { s with n := s.n + 1, trace := (op, r) :: s.trace }

/-- the normal execution of one call -/
def stepOp (op : Op) (s : St) : Res Unit :=
  match execOp s.t op with
  | .ok t' => .ok () { rec s op none with t := t' }
  | .error e => .err (.io e) (rec s op (some e))

/-- EVERY mutating call of every program goes through here -/
def doOp (op : Op) : M Unit := fun s =>
  match s.inj with
  | .none => stepOp op s
  | .fail j e => if j = s.n then .err (.io e) (rec s op (some e)) else stepOp op s
  | .crashBefore j => if j = s.n then .crash s else stepOp op s
  | .crashAfter j =>
    if j = s.n then
      (match execOp s.t op with
       | .ok t' => .crash { rec s op none with t := t' }
       | .error e => .crash (rec s op (some e)))
    else stepOp op s
  | .crashMid j => if j = s.n then .crash { s with t := partialOp s.t op } else stepOp op s

/-- `match fs_call() { Err(e) => …}`: an I/O error becomes a value; a panic or a crash is not caught -/
def tryOp (op : Op) : M (Option Errno) := fun s =>
  match doOp op s with
  | .ok _ s' => .ok none s'
  | .err (.io e) s' => .ok (some e) s'
  | .err f s' => .err f s'
  | .crash s' => .crash s'

/-- `if let Err(e) = f() {…}`; a panic unwinds through it -/
def tryCatch (x : M Unit) : M (Option Fail) := fun s =>
  match x s with
  | .ok _ s' => .ok none s'
  | .err .panic s' => .err .panic s'
  | .err f s' => .ok (some f) s'
  | .crash s' => .crash s'

/-- `let _ = f();` -/
def ignoreErr (x : M Unit) : M Unit := do
  let _ ← tryCatch x
  pure ()

/-- scope exit: `fin` runs after success, error and panic (unwinding), not after a crash -/
def finallyM (body : M Unit) (fin : M Unit) : M Unit := fun s =>
  match body s with
  | .ok _ s' => fin s'
  | .err f s' =>
    (match fin s' with
     | .ok _ s'' => .err f s''
     | .err _ s'' => .err f s''
     | .crash s'' => .crash s'')
  | .crash s' => .crash s'

def repeatM : Nat → M Unit → M Unit
  | 0, _ => pure ()
  | n + 1, x => do x; repeatM n x

/-- `write_all` issues no system call for an empty buffer -/
def writeAll (p : Path) (c : Bytes) : M Unit := if c.isEmpty then pure () else doOp (.write p c)

/-- `std::fs::create_dir_all` (Rust 1.95): walk up the ancestors until one can be created or exists, … -/
def mkdirUp : Nat → Path → M (List Path)
  | 0, _ => pure []
  | fuel + 1, p =>
    if p.isEmpty then pure [] else do
    let r ← tryOp (.mkdir p)
    match r with
    | none => pure []
    | some .ENOENT => do
      let rest ← mkdirUp fuel p.dropLast
      pure (p :: rest)
    | some .EEXIST => do
      let t ← getTree
      if isDir t p then pure [] else throw (.io .EEXIST)
    | some e => throw (.io e)

/-- … then create the missing ones top down; only `AlreadyExists` on a directory is tolerated -/
def mkdirDown : List Path → M Unit
  | [] => pure ()
  | p :: ps => do
    let r ← tryOp (.mkdir p)
    match r with
    | none => mkdirDown ps
    | some .EEXIST => do
      let t ← getTree
      if isDir t p then mkdirDown ps else throw (.io .EEXIST)
    | some e => throw (.io e)

def mkdirs (p : Path) : M Unit := do
  let missing ← mkdirUp (p.length + 1) p
  mkdirDown missing.reverse

-- lock.rs ------------------------------------------------------------------------------------------------
/-- `LockFile::acquire`.  An existing lock file that holds "pid:timestamp" (even half of it: the first half of the
    16-18 bytes still contains the colon, and the cut timestamp is ancient) belongs to a process that no longer runs
    and is removed.  A file that is NOT of that form (in the model: an empty one) is left alone, so that creating
    the lock then fails for ever (`stale = false`), or is removed as abandoned (`stale = true`).
    `byLink = false`: the lock file is created with `create_new` and written afterwards — it exists EMPTY in
    between; when the write fails the empty file stays (`cleans = false`) or is removed again (`cleans = true`).
    `byLink = true` (repo commit 35d666f): the content goes to the private `renamify.lock.<pid>.tmp` (`fs::write`),
    which is published complete with `hard_link` (fails if the lock exists) and then removed whatever the link
    returned; a failing `fs::write` returns at once and may leave the temporary file. -/
def removeOldLock (stale : Bool) : M Unit := do
  let t ← getTree
  match lookup t pLock with
  | some (.file c _) => if !c.isEmpty || stale then doOp (.unlink pLock) else pure ()
  | _ => pure ()

def acquireF (byLink stale cleans : Bool) : M Unit := do
  removeOldLock stale
  mkdirs pR
  if byLink then do
    doOp (.openw pLockTmp true false)
    writeAll pLockTmp lockText
    let r ← tryOp (.link pLockTmp pLock)
    ignoreErr (doOp (.unlink pLockTmp))
    match r with
    | none => pure ()
    | some e => throw (.io e)
  else do
    doOp (.openw pLock false true)
    if cleans then do
      let r ← tryCatch (writeAll pLock lockText)
      match r with
      | none => pure ()
      | some e => do
        ignoreErr (doOp (.unlink pLock))
        throw e
    else writeAll pLock lockText

def acquire : M Unit :=
  acquireF ExecFlags.publishByLink ExecFlags.emptyLockIsStale ExecFlags.lockWriteFailureCleans

/-- `Drop for LockFile`: remove the file if it exists (`checks = false`) / only if it still holds this process's
    own content, which takes a read but no further mutating call (`checks = true`, repo commit d33e63d) -/
def dropLockF (checks : Bool) : M Unit := do
  let t ← getTree
  if checks then
    (match lookup t pLock with
     | some (.file c _) => if c == lockText then ignoreErr (doOp (.unlink pLock)) else pure ()
     | _ => pure ())
  else if exists_ t pLock then ignoreErr (doOp (.unlink pLock)) else pure ()

def dropLock : M Unit := dropLockF ExecFlags.dropChecksContent

/-- `let _lock = LockFile::acquire(…)?; body` — or just `body` for a command that does not take the lock -/
def withLockF (locks : Bool) (body : M Unit) : M Unit :=
  if locks then do
    acquire
    finallyM body dropLock
  else body

/-- whether `acquire` would succeed from this state (no op is issued) -/
def acquirableF (stale : Bool) (t : Tree) : Bool :=
  match lookup t pLock with
  | none => true
  | some (.file c _) => !c.isEmpty || stale
  | _ => false

def acquirable (t : Tree) : Bool := acquirableF ExecFlags.emptyLockIsStale t

-- rename.rs::detect_case_insensitive_fs -----------------------------------------------------------------
/-- `TempDir::drop` / `TempDir::close` → `remove_dir_all`: the file (if it was created), then the directory; stops at
    the first error.  Returns whether everything was removed. -/
def removeProbe : M Bool := do
  let t ← getTree
  let r ← (if exists_ t pProbeFile then tryOp (.unlink pProbeFile) else pure none)
  match r with
  | some _ => pure false
  | none => do
    let r2 ← tryOp (.rmdir pProbe)
    pure r2.isNone

/-- `retry = false`: the cleanup of the probe directory is left to `TempDir::drop`, which ignores errors.
    `retry = true`: it is closed explicitly and, if that fails, removed once more (then only a warning is printed). -/
def probeF (retry : Bool) : M Unit := do
  let r ← tryOp (.mkdir pProbe)
  match r with
  | some _ => pure ()
  | none => do
    let r1 ← tryOp (.openw pProbeFile true false)
    (match r1 with
     | some _ => pure ()
     | none => do
       let _ ← tryOp (.write pProbeFile b!"test")
       pure ())
    let ok ← removeProbe
    if retry && !ok then do
      let _ ← removeProbe
      pure ()
    else pure ()

def probe : M Unit := probeF ExecFlags.probeCleanupRetried

-- apply.rs ---------------------------------------------------------------------------------------------
structure Cfg where
  log : Option Path
  id : Bytes
  entry : UInt8            -- the byte that stands for the history entry this command appends
  force : Bool := false
  /-- the id of the entry is new by construction (`redo-<id>-<timestamp>`): no duplicate-id check can hit -/
  freshId : Bool := false

/-- one `state.log(…)` line.  `ign = false`: `state.log(…)?` — a write error aborts the caller like any other error;
    `ign = true`: the line is dropped and the operation goes on (a log must never change the course of what it logs) -/
def logMF (ign : Bool) (cfg : Cfg) : M Unit :=
  if cfg.log.isSome then (if ign then ignoreErr (doOp .logLine) else doOp .logLine) else pure ()

def logM (cfg : Cfg) : M Unit := logMF ExecFlags.logErrorsIgnored cfg

def rollbackLoop (cfg : Cfg) : List (Path × Path) → Bool → M Bool
  | [], b => pure b
  | (f, to) :: rest, b => do
    logM cfg
    let r ← tryOp (.rename to f false false)
    rollbackLoop cfg rest (b || r.isSome)

/-- `rollback`: renames only, in reverse order, errors collected -/
def rollbackM (cfg : Cfg) (perf : List (Path × Path)) : M Unit := do
  logM cfg
  let bad ← rollbackLoop cfg perf.reverse false
  if bad then throw .rollbackErr else logM cfg

/-- write `c'` to the temp file next to `f`, give it mode `m`, rename it over `f` -/
def replaceFileX (excl : Bool) (f : Path) (c' : Bytes) (m : Nat) : M Unit := do
  -- `excl = false`: `File::create` (O_CREAT|O_TRUNC: an existing file at the temp name is simply overwritten);
  -- `excl = true`: `create_new` (O_EXCL: an existing file makes the open fail with EEXIST)
  doOp (.openw (tmpPath f) true excl)
  writeAll (tmpPath f) c'
  doOp (.chmod (tmpPath f) m)
  doOp (.rename (tmpPath f) f false false)

def replaceFile (f : Path) (c' : Bytes) (m : Nat) : M Unit := replaceFileX ExecFlags.tempOpenExclusive f c' m

/-- would a later content edit of one of `files` fail only because of a temp file that an earlier, killed process left
    behind?  With per-pid names the leftover has another name; with a truncating create it is overwritten. -/
def leftoverBlocks (files : List Path) (t : Tree) : Bool :=
  ExecFlags.tempOpenExclusive && !ExecFlags.tempNamePerPid && files.any (fun f => exists_ t (tmpPath f))

/-- … and, in the variant `clean = true`, remove the temp file again when one of these steps fails -/
def replaceFileFX (excl clean : Bool) (f : Path) (c' : Bytes) (m : Nat) : M Unit :=
  if clean then do
    let r ← tryCatch (replaceFileX excl f c' m)
    match r with
    | none => pure ()
    | some e => do
      ignoreErr (doOp (.unlink (tmpPath f)))
      throw e
  else replaceFileX excl f c' m

def replaceFileF (clean : Bool) (f : Path) (c' : Bytes) (m : Nat) : M Unit :=
  replaceFileFX ExecFlags.tempOpenExclusive clean f c' m

/-- `apply_content_edits_with_content` for one file whose content `c` and mode `m` have been read -/
def editOneF (clean : Bool) (cfg : Cfg) (hs : List Hunk) (f : Path) (c : Bytes) (m : Nat) : M Unit := do
  logM cfg
  match Edits.applyEdits c (editsFor hs f) with
  | .error .panic => throw .panic
  | .error .mismatch => throw .mismatch
  | .ok c' => do
    replaceFileF clean f c' m
    logM cfg

def editOne (cfg : Cfg) (hs : List Hunk) (f : Path) (c : Bytes) (m : Nat) : M Unit :=
  editOneF ExecFlags.tempRemovedOnFailure cfg hs f c m

def contentLoopF (clean : Bool) (cfg : Cfg) (hs : List Hunk) : List Path → M Unit
  | [] => pure ()
  | f :: fs => do
    let t ← getTree
    match lookup t f with
    | some (.file c m) =>
      if !Utf8.valid c then throw .unreadable
      else do
        let r ← tryCatch (editOneF clean cfg hs f c m)
        match r with
        | none => contentLoopF clean cfg hs fs
        | some e => do
          logM cfg
          rollbackM cfg []
          throw e
    | _ => throw .unreadable

def contentLoop (cfg : Cfg) (hs : List Hunk) : List Path → M Unit :=
  contentLoopF ExecFlags.tempRemovedOnFailure cfg hs

/-- number of "Adjusted rename source/destination" log lines -/
def adjustLogs (perf : List (Path × Path)) (r : Ren) : Nat :=
  perf.foldl (fun n pr => n + (if pre pr.1 r.path then 1 else 0) + (if pre pr.1 r.newPath then 1 else 0)) 0

/-- which pairs `rollback` reverts: the recorded (ORIGINAL from, adjusted to) pairs (`real = false`), or the pairs
    exactly as they were executed (`real = true`) -/
def rollbackPairs (real : Bool) (perf exec : List (Path × Path)) : List (Path × Path) := if real then exec else perf

/-- STEP 3.  `perf` = `state.renames_performed` (original from, adjusted to), `exec` = the renames as executed -/
def renameLoopF (real : Bool) (cfg : Cfg) : List (Path × Path) → List (Path × Path) → List Ren → M (List (Path × Path))
  | perf, _, [] => pure perf
  | perf, exec, r :: rs => do
    repeatM (adjustLogs perf r) (logM cfg)
    let af := rebase perf r.path
    let at' := rebase perf r.newPath
    let res ← tryCatch (do
      logM cfg
      doOp (.rename af at' (trailingSlash perf r.path) (trailingSlash perf r.newPath)))
    match res with
    | some e => do
      logM cfg
      rollbackM cfg (rollbackPairs real perf exec)
      throw e
    | none => do
      let res2 ← tryCatch (logM cfg)
      match res2 with
      | some e => do
        logM cfg
        rollbackM cfg (rollbackPairs real (perf ++ [(af, at')]) (exec ++ [(af, at')]))
        throw e
      | none => renameLoopF real cfg (perf ++ [(r.path, at')]) (exec ++ [(af, at')]) rs

def renameLoop (cfg : Cfg) (perf : List (Path × Path)) (rs : List Ren) : M (List (Path × Path)) :=
  renameLoopF ExecFlags.rollbackRealPairs cfg perf [] rs

/-- the pairs the rename phase executes, as a function of the plan alone -/
def execOf : List (Path × Path) → List Ren → List (Path × Path)
  | _, [] => []
  | perf, r :: rs =>
    (rebase perf r.path, rebase perf r.newPath) :: execOf (perf ++ [(r.path, rebase perf r.newPath)]) rs

def contentOf (t : Tree) (p : Path) : Option Bytes :=
  match lookup t p with
  | some (.file c _) => some c
  | _ => none

def patchLoop (cfg : Cfg) (perf : List (Path × Path)) : List (Path × Bytes) → M Unit
  | [] => pure ()
  | (f, c0) :: rest => do
    let t ← getTree
    let cur := currentPath perf f
    if !readable t cur then throw .unreadable
    else do
      if contentOf t cur != some c0 then do
        doOp (.openw (pPatch cfg.id) true false)
        writeAll (pPatch cfg.id) blob
      else pure ()
      patchLoop cfg perf rest

/-- `generate_reverse_patches` -/
def patchPhase (cfg : Cfg) (perf : List (Path × Path)) (orig : List (Path × Bytes)) : M Unit := do
  mkdirs (pPatchDir cfg.id)
  patchLoop cfg perf orig

def pHistTmp : Path := [dotR, b!"history.json.PID.tmp"]

/-- `History::add_entry` → `save`.
    `atomic = false`: open(O_TRUNC) history.json, then one write(2) from a BufWriter that is flushed when it is
    dropped, so the error of that write is lost.
    `atomic = true`: the bytes go to `history.json.<pid>.tmp`, are flushed explicitly (errors propagate), and the
    temp file is renamed over history.json; on any error the temp file is removed. -/
def saveHistF (atomic : Bool) (entry : UInt8) : M Unit := do
  let t ← getTree
  let es := loadHist t
  mkdirs pR
  if atomic then do
    let r ← tryCatch (do
      doOp (.openw pHistTmp true false)
      let w ← tryCatch (writeAll pHistTmp (encodeHist (es ++ [entry])))
      match w with
      | none => pure ()
      | some e => do
        -- the explicit flush reported the error; `BufWriter::drop` then tries once more and ignores the result
        ignoreErr (writeAll pHistTmp (encodeHist (es ++ [entry])))
        throw e
      doOp (.rename pHistTmp pHist false false))
    match r with
    | none => pure ()
    | some e => do
      ignoreErr (doOp (.unlink pHistTmp))
      throw e
  else do
    doOp (.openw pHist true false)
    ignoreErr (writeAll pHist (encodeHist (es ++ [entry])))

def saveHist (entry : UInt8) : M Unit := saveHistF ExecFlags.atomicHistorySave entry

def originals (t : Tree) (files : List Path) : List (Path × Bytes) :=
  files.filterMap (fun f => match lookup t f with
    | some (.file c _) => if Utf8.valid c then some (f, c) else none
    | _ => none)

/-- `History::add_entry`: a plan id that is already recorded is rejected ("History entry with ID … already exists"),
    otherwise the history is saved with the new entry -/
def addEntry (cfg : Cfg) : M Unit := do
  let t ← getTree
  if !cfg.freshId && (loadHist t).contains cfg.entry then throw .dupId
  else saveHist cfg.entry

/-- everything after the renames, in the order the code had up to repo HEAD e472ec7: patches, history entry, stored
    plan; a failure simply returns (no rollback) -/
def recordLegacy (cfg : Cfg) (perf : List (Path × Path)) (orig : List (Path × Bytes)) : M Unit := do
  logM cfg
  let r ← tryCatch (patchPhase cfg perf orig)
  match r with
  | some e => do
    logM cfg
    if !cfg.force then throw e else pure ()
  | none => pure ()
  logM cfg
  logM cfg
  addEntry cfg
  mkdirs pPlans
  doOp (.openw (pStored cfg.id) true false)
  writeAll (pStored cfg.id) blob
  logM cfg
  logM cfg

/-- … and with the history entry as the commit point: patches, stored plan (removed again if it cannot be written or
    if the entry cannot be recorded), history entry LAST; the caller rolls the renames back when this fails -/
def recordCommit (cfg : Cfg) (perf : List (Path × Path)) (orig : List (Path × Bytes)) : M Unit := do
  logM cfg
  let r ← tryCatch (patchPhase cfg perf orig)
  match r with
  | some e => do
    logM cfg
    if !cfg.force then throw e else pure ()
  | none => pure ()
  logM cfg
  logM cfg
  mkdirs pPlans
  let w ← tryCatch (do
    doOp (.openw (pStored cfg.id) true false)
    writeAll (pStored cfg.id) blob)
  match w with
  | some e => do
    ignoreErr (doOp (.unlink (pStored cfg.id)))
    throw e
  | none => pure ()
  logM cfg
  let h ← tryCatch (addEntry cfg)
  match h with
  | some e => do
    ignoreErr (doOp (.unlink (pStored cfg.id)))
    throw e
  | none => pure ()

/-- `apply_plan` -/
def applyPlanBody (cfg : Cfg) (plan : Plan) : M Unit := do
  match cfg.log with
  | some lp => do
    mkdirs lp.dropLast
    doOp (.openw lp false false)
  | none => pure ()
  logM cfg
  logM cfg
  let t ← getTree
  -- any refusal of the pre-flight loop (occupied or shared destination) is the failure class `destExists`
  if (preflight t [] plan.rens).isSome then throw .destExists
  else do
    let files := sortedFiles plan.hunks
    let orig := originals t files
    contentLoop cfg plan.hunks files
    let perf ← renameLoop cfg [] (sortRens plan.rens)
    if ExecFlags.historyEntryIsCommitPoint then do
      let rec' ← tryCatch (recordCommit cfg perf orig)
      match rec' with
      | none => pure ()
      | some e => do
        logM cfg
        rollbackM cfg (rollbackPairs ExecFlags.rollbackRealPairs perf (execOf [] (sortRens plan.rens)))
        throw e
      logM cfg
    else recordLegacy cfg perf orig

def applyPlanMF (dupUpFront : Bool) (cfg : Cfg) (plan : Plan) : M Unit := do
  -- `dupUpFront` (repo commit c3d511b): a plan whose id is already in the history is refused BEFORE anything is
  -- touched — unconditionally; `add_entry` at the end would reject it anyway, but only after the tree was edited
  let t0 ← getTree
  if dupUpFront && !cfg.freshId && (loadHist t0).contains cfg.entry then throw .dupId
  else applyPlanBody cfg plan

def applyPlanM (cfg : Cfg) (plan : Plan) : M Unit := applyPlanMF ExecFlags.dupIdRefusedUpFront cfg plan

-- the commands -------------------------------------------------------------------------------------------
def entryApply : UInt8 := 65
def entryUndo : UInt8 := 85
def entryRedo : UInt8 := 82
def entryOld : UInt8 := 79

/-- the commands without the lock wrapper -/
def bodyRename (plan : Plan) : M Unit := do
  probe
  mkdirs pR
  applyPlanM { log := some (pLogFile idNew), id := idNew, entry := entryApply } plan

def bodyApply (plan : Plan) : M Unit := do
  applyPlanM { log := some (pLogFile idNew), id := idNew, entry := entryApply } plan
  ignoreErr (doOp (.unlink pPlanJson))

/-- does the recorded text of a hunk still sit at its recorded offsets (`content.get(start..end) == hunk.content`)? -/
def hunkFits (t : Tree) (h : Hunk) : Bool :=
  match lookup t h.file with
  | some (.file c _) => Utf8.valid c && Edits.sliceStr c h.start h.stop == some h.before
  | _ => false

/-- `redo_renaming`; `pre = true` (repo commit 3933d7f): every hunk of the stored plan is compared with the files first,
    and a stale plan is refused with nothing touched -/
def bodyRedoF (pre : Bool) (plan : Plan) : M Unit := do
  let t ← getTree
  if pre && !plan.hunks.all (hunkFits t) then throw .mismatch
  else applyPlanM { log := some pApplyLog, id := idRedo, entry := entryRedo, freshId := true } plan

def bodyRedo (plan : Plan) : M Unit := bodyRedoF ExecFlags.redoPrevalidate plan

def bodyReplace (plan : Plan) : M Unit := do
  let t ← getTree
  if !exists_ t pR then mkdirs pR else pure ()
  applyPlanM { log := none, id := idNew, entry := entryApply } plan

/-- the commands as they are: `rename` has always taken the workspace lock; whether `apply`, `redo`, `replace`
    (and `undo`, below) do is read from the source (translate/execflags.py) -/
def cmdRename (plan : Plan) : M Unit := withLockF true (bodyRename plan)
def cmdApply (plan : Plan) : M Unit := withLockF ExecFlags.lockApply (bodyApply plan)
/-- `apply <id>` / `apply <plan file>`: a stored plan is applied again; no plan.json is removed afterwards -/
def bodyReapply (plan : Plan) : M Unit :=
  applyPlanM { log := some (pLogFile idNew), id := idNew, entry := entryApply } plan

def cmdReapply (plan : Plan) : M Unit := withLockF ExecFlags.lockApply (bodyReapply plan)

def cmdRedo (plan : Plan) : M Unit := withLockF ExecFlags.lockRedo (bodyRedo plan)
def cmdReplace (plan : Plan) : M Unit := withLockF ExecFlags.lockReplace (bodyReplace plan)

-- undo.rs --------------------------------------------------------------------------------------------------
def insertPair (le : (Path × Path) → (Path × Path) → Bool) (x : Path × Path) : List (Path × Path) → List (Path × Path)
  | [] => [x]
  | y :: ys => if le x y then x :: y :: ys else y :: insertPair le x ys

def sortPairs (le : (Path × Path) → (Path × Path) → Bool) : List (Path × Path) → List (Path × Path)
  | [] => []
  | x :: xs => insertPair le x (sortPairs le xs)

def undoDirs (rs : List Ren) : List (Path × Path) :=
  sortPairs (fun a b => decide (depth a.2 ≤ depth b.2))
    ((rs.filter (fun r => r.kind == .dir)).map (fun r => (r.path, r.newPath)))

def undoFiles (rs : List Ren) : List (Path × Path) :=
  let dirs := undoDirs rs
  sortPairs (fun a b => decide (depth b.2 ≤ depth a.2))
    ((rs.filter (fun r => r.kind == .file)).map (fun r =>
      (r.path, dirs.foldl (fun cur d => if pre d.2 r.newPath then d.1 ++ r.newPath.drop d.2.length else cur) r.newPath)))

def renameBack : List (Path × Path) → M Unit
  | [] => pure ()
  | (f, to) :: rest => do
    let t ← getTree
    if exists_ t to then doOp (.rename to f false false) else pure ()
    renameBack rest

/-- `apply_single_patch`: read, patch in memory (the stored reverse patch yields the original content —
    diffy round trip, hypothesis), then `fs::write` IN PLACE and chmod (`viaTemp = false`), or write a temp file,
    chmod it and rename it over the user's file (`viaTemp = true`; `cleans`: the temp file is removed when a step fails) -/
def patchOneF (viaTemp cleans : Bool) (f : Path) (c : Bytes) : M Unit := do
  let t ← getTree
  match lookup t f with
  | some (.file cur m) =>
    if !Utf8.valid cur then throw .unreadable
    else if viaTemp then replaceFileFX false cleans f c m      -- `fs::write(&temp_path, …)`: always a truncating create
    else do
      doOp (.openw f true false)
      writeAll f c
      doOp (.chmod f m)
  | _ => throw .unreadable

def patchOne (f : Path) (c : Bytes) : M Unit :=
  patchOneF ExecFlags.undoViaTemp ExecFlags.undoTempRemovedOnFailure f c

def undoPatches : List (Path × Bytes) → Bool → M Bool
  | [], b => pure b
  | (f, c) :: rest, b => do
    let r ← tryCatch (patchOne f c)
    match r with
    | none => undoPatches rest b
    | some _ => do
      ignoreErr (do
        doOp (.openw (rejPath f) true false)
        writeAll (rejPath f) blob)
      undoPatches rest true

/-- `undo_renaming`; `restore` lists (original path, original content) in the order the patches are applied
    (a `HashMap` in the code: any order) -/
def bodyUndoSteps (plan : Plan) (restore : List (Path × Bytes)) : M Unit := do
  renameBack (undoDirs plan.rens)
  renameBack (undoFiles plan.rens)
  let bad ← undoPatches restore false
  if bad then throw .patchFailed
  else saveHist entryUndo

/-- `state.renames_performed` of the completed apply, as a function of the plan alone -/
def perfOf : List (Path × Path) → List Ren → List (Path × Path)
  | perf, [] => perf
  | perf, r :: rs => perfOf (perf ++ [(r.path, rebase perf r.newPath)]) rs

/-- where an edited file is now (after the apply that is being undone), falling back to its original path -/
def nowAt (t : Tree) (plan : Plan) (f : Path) : Path :=
  let cand := currentPath (perfOf [] (sortRens plan.rens)) f
  if exists_ t cand then cand else f

/-- `undo_renaming`; `pre = true` (repo commit 657a7be): every reverse patch is checked in memory against the file where
    it is now, and if one cannot be applied undo refuses with nothing touched (in the model a patch applies iff the file
    is readable: the diffy round trip is a hypothesis) -/
def bodyUndoF (pre : Bool) (plan : Plan) (restore : List (Path × Bytes)) : M Unit := do
  let t ← getTree
  if pre && !restore.all (fun fc => readable t (nowAt t plan fc.1)) then throw .patchFailed
  else bodyUndoSteps plan restore

def bodyUndo (plan : Plan) (restore : List (Path × Bytes)) : M Unit :=
  bodyUndoF ExecFlags.undoPrevalidate plan restore

def cmdUndo (plan : Plan) (restore : List (Path × Bytes)) : M Unit :=
  withLockF ExecFlags.lockUndo (bodyUndo plan restore)

-- running ----------------------------------------------------------------------------------------------------
inductive Outcome where | ok | fail | panic | crashed
  deriving DecidableEq, Repr

def outcome {α} : Res α → Outcome
  | .ok _ _ => .ok
  | .err .panic _ => .panic
  | .err _ _ => .fail
  | .crash _ => .crashed

def run (prog : M Unit) (t : Tree) (inj : Inj) : Res Unit := prog { t := t, inj := inj }

end Exec
